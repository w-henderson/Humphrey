import HumphreyModel.Model.Conf

/-! `str::split(c)`, and the route validation rules of `Config::from_tree`. -/
namespace Humphrey.Conf

theorem splitAll_ne_nil (c : Char) (s : Str) : ∃ a r, splitAll c s = a :: r := by
  cases s with
  | nil => exact ⟨[], [], rfl⟩
  | cons d s =>
    simp only [splitAll]
    split
    · exact ⟨_, _, rfl⟩
    · split <;> exact ⟨_, _, rfl⟩

theorem splitAll_none {c : Char} {a : Str} (h : ∀ x ∈ a, x ≠ c) : splitAll c a = [a] := by
  induction a with
  | nil => rfl
  | cons d a ih =>
    have hd : d ≠ c := h d (by simp)
    simp only [splitAll, hd, if_false, ih (fun x hx => h x (by simp [hx]))]

theorem splitAll_append {c : Char} {a : Str} (h : ∀ x ∈ a, x ≠ c) (rest : Str) :
    splitAll c (a ++ c :: rest) = a :: splitAll c rest := by
  induction a with
  | nil => simp [splitAll]
  | cons d a ih =>
    have hd : d ≠ c := h d (by simp)
    simp only [List.cons_append, splitAll, hd, if_false, ih (fun x hx => h x (by simp [hx]))]

/-- There is always a first pattern, so an error that every pattern gives is the error of the route. -/
theorem parseRoute_err {wild : Str} {conf : Map} {e : CfgErr} (h : ∀ w, parseRouteOne w conf = .err e) :
    parseRoute wild conf = .err e := by
  obtain ⟨a, r, ha⟩ := splitAll_ne_nil ',' wild
  rw [parseRoute, ha, parseRoutePats, h]

/-! ### a faulty route anywhere in the file -/

/-- The routes before the faulty one are fine. -/
theorem parseRoutes_err_at {pre rest inner : List Node} {wild : Str} {e : CfgErr}
    (hpre : ∃ rs, parseRoutes pre = .ok rs)
    (h : parseRoute wild (flattenList [] inner []) = .err e) :
    parseRoutes (pre ++ .route wild inner :: rest) = .err e := by
  fun_induction parseRoutes pre
  case case1 => simp only [List.nil_append, parseRoutes, h]
  case case2 h1 _ h2 ih => simp only [List.cons_append, parseRoutes, h1, ih ⟨_, h2⟩]
  case case7 hn ih => rw [List.cons_append, parseRoutes.eq_3 _ _ hn]; exact ih hpre
  all_goals nomatch hpre

/-- The hosts before the faulty one are fine. -/
theorem parseHosts_err_at {pre rest inner : List Node} {name : Str} {e : CfgErr}
    (hpre : ∃ hs, parseHosts pre = .ok hs)
    (h : parseRoutes inner = .err e) :
    parseHosts (pre ++ .host name inner :: rest) = .err e := by
  fun_induction parseHosts pre
  case case1 => simp only [List.nil_append, parseHosts, h]
  case case2 h1 _ h2 ih => simp only [List.cons_append, parseHosts, h1, ih ⟨_, h2⟩]
  case case7 hn ih => rw [List.cons_append, parseHosts.eq_3 _ _ hn]; exact ih hpre
  all_goals nomatch hpre

end Humphrey.Conf
