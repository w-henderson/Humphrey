import HumphreyModel.Proofs.PoolInv

/-!
C08: the recovery machinery (marker sends and the recovery thread's steps). Whatever the recovery thread is busy with
is a dead worker, so it is never stuck; its steps touch nothing but broken workers and make `recRank` smaller: after
panics they alone bring every worker id back to an incarnation that is not broken (one that serves the queue, or has
left its loop once the pool is stopped or dropped).
-/
namespace Humphrey.Pool

def Phase.broken : Phase → Bool
  | .unwinding | .dead => true
  | _ => false

def Label.isRecovery : Label → Bool
  | .markerSend _ | .recRecv _ | .recJoin | .recRespawn => true
  | _ => false

theorem recRecv_enabled {c : Cfg} {s : State} {w : Nat} (hi : InvStruct c s) (hr : s.recov = .waiting)
    (hw : s.workers[w]? = some .dead) :
    Step c s (.recRecv w) { s with recov := .joining w, recChan := s.recChan.erase w } := by
  have := hi.recv w
  rw [hr, if_pos hw] at this
  exact .recRecv hr (List.count_pos_iff.mp (by simp [Rec.busyWith] at this; omega))

theorem recJoin_enabled {c : Cfg} {s : State} {v : Nat} (hi : InvStruct c s) (hr : s.recov = .joining v) :
    Step c s .recJoin { s with recov := .respawning v } :=
  .recJoin hr (hi.dead_of (.inr (by rw [hr]; exact beq_self_eq_true v)))

theorem recRespawn_enabled {c : Cfg} {s : State} {v : Nat} (hi : InvStruct c s) (hr : s.recov = .respawning v) :
    Step c s .recRespawn { setW s v .idle with recov := .waiting } :=
  .recRespawn hr (hi.dead_of (.inr (by rw [hr]; exact beq_self_eq_true v)))

theorem recovery_enabled {c : Cfg} {s : State} (hi : InvStruct c s) {w : Nat} {p : Phase}
    (hw : s.workers[w]? = some p) (hb : p.broken = true) : ∃ l s', l.isRecovery = true ∧ Step c s l s' := by
  cases hrec : s.recov with
  | absent => exact absurd hrec (hi.shape_of_worker hw).2.2
  | ended => exact absurd hrec hi.recAlive
  | joining v => exact ⟨_, _, rfl, recJoin_enabled hi hrec⟩
  | respawning v => exact ⟨_, _, rfl, recRespawn_enabled hi hrec⟩
  | waiting =>
    cases p <;> cases hb
    · exact ⟨_, _, rfl, .markerSend hw⟩
    · exact ⟨_, _, rfl, recRecv_enabled hi hrec hw⟩

/-- Nothing but broken workers (and the recovery thread's own bookkeeping) differs. -/
structure Untouched (s s' : State) : Prop where
  queue : s'.queue = s.queue
  lock : s'.rxLock = s.rxLock
  len : s'.workers.length = s.workers.length
  workers : ∀ (v : Nat) (p : Phase), s.workers[v]? = some p → p.broken = false → s'.workers[v]? = some p
  logs : s'.submitted = s.submitted ∧ s'.dequeued = s.dequeued ∧ s'.started = s.started ∧
    s'.finished = s.finished ∧ s'.panicked = s.panicked
  life : s'.life = s.life ∧ s'.caller = s.caller ∧ s'.senderAlive = s.senderAlive

theorem Untouched.refl (s : State) : Untouched s s := ⟨rfl, rfl, rfl, fun _ _ h _ => h, ⟨rfl, rfl, rfl, rfl, rfl⟩, ⟨rfl, rfl, rfl⟩⟩

theorem Untouched.trans {a b d : State} (h1 : Untouched a b) (h2 : Untouched b d) : Untouched a d :=
  ⟨h2.queue.trans h1.queue, h2.lock.trans h1.lock, h2.len.trans h1.len,
   fun v p hv hb => h2.workers v p (h1.workers v p hv hb) hb,
   ⟨h2.logs.1.trans h1.logs.1, h2.logs.2.1.trans h1.logs.2.1, h2.logs.2.2.1.trans h1.logs.2.2.1,
    h2.logs.2.2.2.1.trans h1.logs.2.2.2.1, h2.logs.2.2.2.2.trans h1.logs.2.2.2.2⟩,
   ⟨h2.life.1.trans h1.life.1, h2.life.2.1.trans h1.life.2.1, h2.life.2.2.trans h1.life.2.2⟩⟩

theorem Step.untouched {c : Cfg} {s s' : State} {l : Label} (st : Step c s l s') (hl : l.isRecovery = true) :
    Untouched s s' := by
  cases st with
  | recRecv | recJoin => exact ⟨rfl, rfl, rfl, fun _ _ h _ => h, ⟨rfl, rfl, rfl, rfl, rfl⟩, ⟨rfl, rfl, rfl⟩⟩
  | @markerSend w hw | @recRespawn w _ hw =>
    refine ⟨rfl, rfl, List.length_set, fun v p hv hb => ?_, ⟨rfl, rfl, rfl, rfl, rfl⟩, ⟨rfl, rfl, rfl⟩⟩
    -- the worker that moves is broken, `v` is not
    have e : w ≠ v := fun e => by subst e; cases hw.symm.trans hv; cases hb
    exact (List.getElem?_set_ne e).trans hv
  | _ => cases hl

def brokenRank : Phase → Nat
  | .unwinding => 4
  | .dead => 3
  | _ => 0

/-- What the recovery machinery still has to do (a scale of its own, not a part of `measure`, which also counts the
steps of healthy workers). A respawn takes the recovery thread back to `waiting` (+2), so the dead worker it removes
weighs 3. -/
def recRank (s : State) : Nat :=
  sumBy brokenRank s.workers + (match s.recov with | .waiting => 2 | .joining _ => 1 | _ => 0)

theorem Step.recRank_lt {c : Cfg} {s s' : State} {l : Label} (st : Step c s l s') (hl : l.isRecovery = true) :
    recRank s' < recRank s := by
  cases st with
  | recRecv h1 | recJoin h1 => simp [recRank, h1]
  | markerSend hw =>
    have := sumBy_set (g := brokenRank) .dead hw
    simp only [recRank, setW, brokenRank] at this ⊢; omega
  | recRespawn h1 hw =>
    have := sumBy_set (g := brokenRank) .idle hw
    simp only [recRank, h1, setW, brokenRank] at this ⊢; omega
  | _ => cases hl

/-- From any state that satisfies the invariant, steps of the recovery machinery alone lead to a state without broken
workers. -/
theorem recovery_restores {c : Cfg} {s : State} (hi : Inv c s) :
    ∃ ls s', ls.all Label.isRecovery = true ∧ run c s ls = some s' ∧ Untouched s s' ∧ Inv c s' ∧
      ∀ (v : Nat) (p : Phase), s'.workers[v]? = some p → p.broken = false := by
  generalize hn : recRank s = n
  induction n using Nat.strongRecOn generalizing s with
  | ind n ih =>
    by_cases hex : ∃ (w : Nat) (p : Phase), s.workers[w]? = some p ∧ p.broken = true
    · obtain ⟨w, p, hw, hb⟩ := hex
      obtain ⟨l, s1, hl, st⟩ := recovery_enabled hi.struct hw hb
      obtain ⟨ls, s', h1, h2, h3, h4⟩ := ih _ (hn ▸ st.recRank_lt hl) (inv_step hi st.to_step) rfl
      exact ⟨l :: ls, s', by rw [List.all_cons, hl, h1]; rfl, st.run_cons h2, (st.untouched hl).trans h3, h4⟩
    · exact ⟨[], s, rfl, rfl, .refl s, hi, fun v p hv => Bool.eq_false_iff.mpr fun hb => hex ⟨v, p, hv, hb⟩⟩

theorem usable_or_exited_of_not_broken {ws : List Phase}
    (h : ∀ (v : Nat) (p : Phase), ws[v]? = some p → p.broken = false) :
    usableCount ws + exitedCount ws = ws.length := by
  -- a worker that is not broken has left its loop exactly if it does not serve the queue
  have : List.countP Phase.isExited ws = List.countP (fun p => decide ¬p.usable = true) ws :=
    List.countP_congr <| forall_mem_of_getElem? fun v p hv => by
      have := h v p hv
      cases p <;> simp [Phase.isExited, Phase.usable, Phase.broken] at this ⊢
  rw [usableCount, exitedCount, ← List.countP_eq_length_filter, ← List.countP_eq_length_filter, this]
  exact (List.length_eq_countP_add_countP _).symm

end Humphrey.Pool
