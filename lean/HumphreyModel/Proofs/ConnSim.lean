import HumphreyModel.Model.Conn
import HumphreyModel.Proofs.HttpSim
/-
One round of the connection loop for a request that parsed and is not an upgrade
(`serveLoop_request`), and the loop on two byte sources that deliver the same bytes (`serveLoop_sim`).
-/
namespace Humphrey.Http
open Humphrey Humphrey.Bytes Humphrey.IO

/-- The keep-alive decision of the loop. -/
def kaOf (req : Request) : Bool :=
  match req.headers.get hConnection with
  | some c => decide (asciiLower c = keepAliveLower)
  | none => false

def dispatchedAfter {κ ω : Type} (cfg : ConnCfg κ ω) (req : Request) (d : List Request) : List Request :=
  if (getHandler cfg.app ((req.headers.get hHost).map cfg.decode) (cfg.decode req.uri)).isSome ∧
      req.method ≠ .options then d ++ [req] else d

theorem serveLoop_request {σ κ ω : Type} (S : Source σ) (idle : σ → Option σ) (cfg : ConnCfg κ ω)
    (fuel : Nat) (s s' : σ) (req : Request) (w : List Bytes) (d : List Request)
    (hi : (if cfg.timeout then idle s else none) = none)
    (hp : parseRequest S cfg.env s = .ok (req, s'))
    (hu : req.headers.get hUpgrade ≠ some websocketValue) :
    serveLoop S idle cfg (fuel + 1) s w d =
      match respond cfg req (kaOf req) with
      | none => ⟨w, dispatchedAfter cfg req d, none, .handlerPanicked, s'⟩
      | some resp =>
        if kaOf req then serveLoop S idle cfg fuel s' (w ++ [serializeResponse resp]) (dispatchedAfter cfg req d)
        else ⟨w ++ [serializeResponse resp], dispatchedAfter cfg req d, none, .closed, s'⟩ := by
  simp only [serveLoop, hi, hp, hu, if_false]
  rfl

def ConnRel {σ₁ σ₂ ω : Type} (R : σ₁ → σ₂ → Prop) (a : ConnResult σ₁ ω) (b : ConnResult σ₂ ω) : Prop :=
  a.written = b.written ∧ a.dispatched = b.dispatched ∧ a.ws = b.ws ∧
  a.disposition = b.disposition ∧ R a.rest b.rest

/-- The connection loop run on two byte sources that deliver the same bytes (and no idle gaps)
writes the same responses, dispatches the same requests and ends the same way. -/
theorem serveLoop_sim {σ₁ σ₂ κ ω : Type} {S₁ : Source σ₁} {S₂ : Source σ₂} {R : σ₁ → σ₂ → Prop}
    (sim : Sim S₁ S₂ R) (cfg : ConnCfg κ ω) (fuel : Nat) (s₁ : σ₁) (s₂ : σ₂)
    (w : List Bytes) (d : List Request) (h : R s₁ s₂) :
    ConnRel R (serveLoop S₁ (fun _ => none) cfg fuel s₁ w d)
      (serveLoop S₂ (fun _ => none) cfg fuel s₂ w d) := by
  induction fuel generalizing s₁ s₂ w d with
  | zero => exact ⟨rfl, rfl, rfl, rfl, h⟩
  | succ fuel ih =>
    rcases OutRel.elim (parseRequest_sim sim cfg.env s₁ s₂ h) with
      ⟨req, t₁, t₂, e₁, e₂, ht⟩ | ⟨e, e₁, e₂⟩ | ⟨e₁, e₂⟩
    · by_cases hu : req.headers.get hUpgrade = some websocketValue
      · simp only [serveLoop, ite_self, e₁, e₂, hu, if_true]
        exact ⟨rfl, rfl, rfl, rfl, ht⟩
      · rw [serveLoop_request S₁ _ cfg fuel s₁ t₁ req w d (ite_self _) e₁ hu,
          serveLoop_request S₂ _ cfg fuel s₂ t₂ req w d (ite_self _) e₂ hu]
        cases respond cfg req (kaOf req) with
        | none => exact ⟨rfl, rfl, rfl, rfl, ht⟩
        | some resp =>
          cases kaOf req with
          | true => exact ih _ _ _ _ ht
          | false => exact ⟨rfl, rfl, rfl, rfl, ht⟩
    · simp only [serveLoop, ite_self, e₁, e₂]
      cases e <;> exact ⟨rfl, rfl, rfl, rfl, h⟩
    · simp only [serveLoop, ite_self, e₁, e₂]
      exact ⟨rfl, rfl, rfl, rfl, h⟩

end Humphrey.Http
