import HumphreyModel.Proofs.JsonComplete

/-!
For C13: what the serialiser emits is an RFC 8259 text denoting the value.
-/
namespace Humphrey.Json
open Humphrey.JsonSpec

theorem J_string {N : Type} (C : NumCodec N) (s : List Char) : J C .value (stringToString s) (.string s) 0 :=
  .string (strBody_escapeString s)

mutual
theorem serialize_J {N : Type} {C : NumCodec N} {Fin : N → Prop} (hC : LawfulCodec C Fin) :
    ∀ v : Value N, FiniteNumbers Fin v → J C .value (serialize C v) v (depthOf v)
  | .null, _ => .null
  | .bool true, _ => .true
  | .bool false, _ => .false
  | .number n, h => .number (hC.show_lexeme n h) (hC.parse_show n h)
  | .string s, _ => J_string C s
  | .array [], _ => .arrayEmpty (w := []) ws_nil
  | .array (x :: xs), h => .array (serializeItems_J hC (x :: xs) (List.cons_ne_nil _ _) h)
  | .object [], _ => .objectEmpty (w := []) ws_nil
  | .object (m :: ms), h => .object (serializeMembers_J hC (m :: ms) (List.cons_ne_nil _ _) h)

theorem serializeItems_J {N : Type} {C : NumCodec N} {Fin : N → Prop} (hC : LawfulCodec C Fin) :
    ∀ xs : List (Value N), xs ≠ [] → FiniteList Fin xs → J C .elems (serializeItems C xs) (.array xs) (depthList xs)
  | [], h, _ => absurd rfl h
  | [x], _, hf => by
    have := J.elemsOne (w1 := []) (w2 := []) ws_nil (serialize_J hC x hf.1) ws_nil
    simpa [serializeItems, depthList] using this
  | x :: y :: ys, _, hf =>
    J.elemsCons (w1 := []) (w2 := []) ws_nil (serialize_J hC x hf.1) ws_nil
      (serializeItems_J hC (y :: ys) (List.cons_ne_nil _ _) hf.2)

theorem serializeMembers_J {N : Type} {C : NumCodec N} {Fin : N → Prop} (hC : LawfulCodec C Fin) :
    ∀ ms : List (List Char × Value N), ms ≠ [] → FiniteMembers Fin ms →
      J C .members (serializeMembers C ms) (.object ms) (depthMembers ms)
  | [], h, _ => absurd rfl h
  | [(k, v)], _, hf => by
    have := J.membersOne (w1 := []) (w2 := []) (w3 := []) (w4 := []) ws_nil (strBody_escapeString k) ws_nil ws_nil
      (serialize_J hC v hf.1) ws_nil
    simpa [serializeMembers, depthMembers, stringToString] using this
  | (k, v) :: m :: ms, _, hf => by
    have := J.membersCons (w1 := []) (w2 := []) (w3 := []) (w4 := []) ws_nil (strBody_escapeString k) ws_nil ws_nil
      (serialize_J hC v hf.1) ws_nil (serializeMembers_J hC (m :: ms) (List.cons_ne_nil _ _) hf.2)
    simpa [serializeMembers, depthMembers, stringToString] using this
end

theorem ws_spaces (n : Nat) : Ws (spaces n) :=
  fun _ hc => .inl (List.mem_replicate.1 hc).2

theorem ws_nl_spaces (n : Nat) : Ws ('\n' :: spaces n) := by
  intro c hc
  rcases List.mem_cons.1 hc with rfl | hc
  · exact .inr (.inr (.inl rfl))
  · exact ws_spaces n c hc

theorem ws_space : Ws [' '] := ws_spaces 1

mutual
theorem pretty_J {N : Type} {C : NumCodec N} {Fin : N → Prop} (hC : LawfulCodec C Fin) (size : Nat) :
    ∀ (v : Value N) (indent : Nat), FiniteNumbers Fin v → J C .value (serializePrettyIndent C size v indent) v (depthOf v)
  | .null, _, _ => .null
  | .bool true, _, _ => .true
  | .bool false, _, _ => .false
  | .number n, _, h => .number (hC.show_lexeme n h) (hC.parse_show n h)
  | .string s, _, _ => J_string C s
  | .array [], _, _ => .arrayEmpty (w := []) ws_nil
  | .array (x :: xs), indent, h => by
    have := J.array (prettyItems_J hC size (x :: xs) (List.cons_ne_nil _ _) h (indent + size) ('\n' :: spaces indent)
      (ws_nl_spaces indent))
    simpa [serializePrettyIndent, depthOf] using this
  | .object [], _, _ => .objectEmpty (w := []) ws_nil
  | .object (m :: ms), indent, h => by
    have := J.object (prettyMembers_J hC size (m :: ms) (List.cons_ne_nil _ _) h (indent + size) ('\n' :: spaces indent)
      (ws_nl_spaces indent))
    simpa [serializePrettyIndent, depthOf] using this

theorem prettyItems_J {N : Type} {C : NumCodec N} {Fin : N → Prop} (hC : LawfulCodec C Fin) (size : Nat) :
    ∀ xs : List (Value N), xs ≠ [] → FiniteList Fin xs → ∀ (ind : Nat) (w : List Char), Ws w →
      J C .elems (prettyItems C size xs ind ++ w) (.array xs) (depthList xs)
  | [], h, _, _, _, _ => absurd rfl h
  | [x], _, hf, ind, w, hw => by
    have := J.elemsOne (ws_nl_spaces ind) (pretty_J hC size x ind hf.1) hw
    simpa [prettyItems, depthList] using this
  | x :: y :: ys, _, hf, ind, w, hw => by
    have := J.elemsCons (w2 := []) (ws_nl_spaces ind) (pretty_J hC size x ind hf.1) ws_nil
      (prettyItems_J hC size (y :: ys) (List.cons_ne_nil _ _) hf.2 ind w hw)
    simpa [prettyItems, depthList] using this

theorem prettyMembers_J {N : Type} {C : NumCodec N} {Fin : N → Prop} (hC : LawfulCodec C Fin) (size : Nat) :
    ∀ ms : List (List Char × Value N), ms ≠ [] → FiniteMembers Fin ms → ∀ (ind : Nat) (w : List Char), Ws w →
      J C .members (prettyMembers C size ms ind ++ w) (.object ms) (depthMembers ms)
  | [], h, _, _, _, _ => absurd rfl h
  | [(k, v)], _, hf, ind, w, hw => by
    have := J.membersOne (w2 := []) (ws_nl_spaces ind) (strBody_escapeString k) ws_nil ws_space
      (pretty_J hC size v ind hf.1) hw
    simpa [prettyMembers, depthMembers, stringToString] using this
  | (k, v) :: m :: ms, _, hf, ind, w, hw => by
    have := J.membersCons (w2 := []) (w4 := []) (ws_nl_spaces ind) (strBody_escapeString k) ws_nil ws_space
      (pretty_J hC size v ind hf.1) ws_nil (prettyMembers_J hC size (m :: ms) (List.cons_ne_nil _ _) hf.2 ind w hw)
    simpa [prettyMembers, depthMembers, stringToString] using this
end
end Humphrey.Json
