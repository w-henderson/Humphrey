import HumphreyModel.Model.Date
import HumphreyModel.Spec.Date

/-! Helper lemmas for C18 (dates): `to_string` against the IMF-fixdate layout. -/
namespace Humphrey.Date
open Humphrey.Date.Spec

theorem digitChar_eq_digit (n : Nat) : digitChar n = digit n := rfl

theorem digit_mod (n : Nat) : digit (n % 10) = digit n := by
  unfold digit; rw [Nat.mod_mod]

theorem decimal_lt10 (n : Nat) (h : n < 10) : decimal n = [digit n] := by
  rw [decimal, if_pos h]; rfl

theorem decimal_step (n : Nat) (h : 10 ≤ n) : decimal n = decimal (n / 10) ++ [digit n] := by
  rw [decimal, if_neg (by omega), digitChar_eq_digit, digit_mod]

/-- `{:02}` of a number below 100 is the `2DIGIT` of the grammar. -/
theorem pad02_eq_dec2 (n : Nat) (h : n < 100) : pad02 n = dec2 n := by
  unfold pad02 dec2
  by_cases h10 : n < 10
  · rw [decimal_lt10 n h10, Nat.div_eq_of_lt h10]; rfl
  · rw [decimal_step n (Nat.le_of_not_lt h10), decimal_lt10 (n / 10) (Nat.div_lt_of_lt_mul h)]; rfl

/-- `{}` of a number in 1000 … 9999 is the `4DIGIT` of the grammar. -/
theorem decimal_eq_dec4 (n : Nat) (h0 : 1000 ≤ n) (h1 : n ≤ 9999) : decimal n = dec4 n := by
  have e1 : n / 10 / 10 = n / 100 := Nat.div_div_eq_div_mul n 10 10
  have e2 : n / 100 / 10 = n / 1000 := Nat.div_div_eq_div_mul n 100 10
  have d1 : 10 ≤ n / 10 := (Nat.le_div_iff_mul_le (by decide)).mpr (Nat.le_trans (by decide) h0)
  have d2 : 10 ≤ n / 100 := (Nat.le_div_iff_mul_le (by decide)).mpr h0
  have d3 : n / 1000 < 10 := Nat.div_lt_of_lt_mul (Nat.lt_of_le_of_lt h1 (by decide))
  rw [decimal_step n (Nat.le_trans (by decide) h0), decimal_step (n / 10) d1, e1, decimal_step (n / 100) d2, e2,
    decimal_lt10 (n / 1000) d3]
  rfl

theorem days_table : ∀ w, w < 7 → DAYS[w]? = some (dayName w) := by decide +kernel

theorem months_table : ∀ m, m < 12 → MONTHS[m]? = some (monthName m) ∧ padStr2 (monthName m) = monthName m ∧
    (monthName m).length = 3 := by decide +kernel

theorem dayName_length : ∀ w, w < 7 → (dayName w).length = 3 := by decide +kernel

end Humphrey.Date
