import HumphreyModel.Proofs.HttpMsgSer
import HumphreyModel.Proofs.ConnSim
/-
The hypotheses of `serve_meets_spec` and its variants (`Props/C01Spec.lean`, `Props/C01Stream.lean`,
`serve_meets_spec_at_boundaries` in `Proofs/HttpMsgLoop.lean`), in one place: what is asked of the
configuration (`CfgOk`), of the text a response echoes from its request (`ReqOk`, of which parsing
gives all but `NoBareCR`), and the conditions on the client byte stream from which `NoBareCR` follows
(`CRonlyBeforeLF` on the whole stream, `HeadsClean` on the request heads at the `ReqBoundary`s).
-/
namespace Humphrey.Http
open Humphrey Humphrey.Bytes

/-- What a handler may return (the property's targets): a status the code knows, well-formed
headers, none of the headers the server computes for framing and CORS, a body whose length is a
`usize`. -/
structure HandlerOk (r : Response) : Prop where
  status : statusKnown r.status = true
  headers : ∀ h ∈ r.headers, h.WF
  no_content_length : r.headers.get hContentLength = none
  no_acao : r.headers.get hAcao = none
  no_acam : r.headers.get hAcam = none
  no_acah : r.headers.get hAcah = none
  body_len : r.body.length < 18446744073709551616

/-- The configuration is well-behaved: handlers return `HandlerOk` responses, the CORS values of
every route that can be selected and the clock text are well-formed header values. -/
structure CfgOk {κ ω : Type} (cfg : ConnCfg κ ω) : Prop where
  handlers : ∀ k req r, cfg.run k req = .response r → HandlerOk r
  cors : ∀ host path e, getHandler cfg.app host path = some e → ∀ h ∈ e.cors.setHeaders [], h.WF
  now : Header.WF ⟨hDate, cfg.now⟩

/-- What the response echoes from the request: the version (non-empty, no SP/CR/LF) and the value
of `Connection` (no CR/LF, no leading SP/TAB). -/
structure ReqOk (req : Request) : Prop where
  version_ne : req.version ≠ []
  version_clean : ∀ b ∈ req.version, b ≠ 32 ∧ b ≠ 13 ∧ b ≠ 10
  connection : ∀ c, req.headers.get hConnection = some c → Header.WF ⟨hConnection, c⟩

open Humphrey.IO

/-- The one thing parsing does not guarantee about the echoed text: no CR (a CR inside the version
or inside the `Connection` value is necessarily a *bare* CR — one not followed by LF). -/
structure NoBareCR (req : Request) : Prop where
  version : ∀ b ∈ req.version, b ≠ 13
  connection : ∀ c, req.headers.get hConnection = some c → ∀ b ∈ c, b ≠ 13

/-- The positions of the stream `s0` at which the loop may parse a request: the start, and the end of a
request parsed at a boundary that was not an upgrade and asked for keep-alive. (Whether the loop
really gets there also depends on handlers not panicking and on pauses; those only make the set
smaller.) A function of the bytes and the parser alone. -/
inductive ReqBoundary (env : Env) (s0 : Bytes) : Bytes → Prop
  | start : ReqBoundary env s0 s0
  | next {b : Bytes} {req : Request} {b' : Bytes} : ReqBoundary env s0 b →
      parseRequest flatSource env b = .ok (req, b') →
      req.headers.get hUpgrade ≠ some websocketValue → kaOf req = true → ReqBoundary env s0 b'

/-- **Clean stream**: a CR (13) is never immediately followed by a byte other than LF (10). (A CR
that is the very last byte of the stream is allowed: nothing follows it.) -/
def CRonlyBeforeLF (s : Bytes) : Prop :=
  ∀ pre c post, s = pre ++ 13 :: c :: post → c = 10

/-- The statement's stricter wording: every CR is immediately followed by an LF. -/
def CRalwaysBeforeLF (s : Bytes) : Prop :=
  ∀ pre post, s = pre ++ 13 :: post → ∃ post', post = 10 :: post'

/-- **Clean heads**: in every request of the stream, as the server frames it from the start, the head
(everything the request consumed except its body) never has a CR followed by a non-LF byte. Bodies
are unrestricted. -/
def HeadsClean (env : Env) (s0 : Bytes) : Prop :=
  ∀ (b : Bytes) (req : Request) (b' head : Bytes), ReqBoundary env s0 b →
    parseRequest flatSource env b = .ok (req, b') → b = head ++ req.content.getD [] ++ b' →
    CRonlyBeforeLF head

end Humphrey.Http
