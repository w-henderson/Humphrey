import HumphreyModel.Proofs.ConfValue

/-! One step of the `parse_section` loop, by what `clean_up` makes of the line. -/
namespace Humphrey.Conf
open Humphrey.Glob

variable (inc : Str → Str → Nat → Nat → Res ConfError (List Node)) (file : Str) (base : Nat)

theorem go_blank {raw : Str} (hc : cleanUp raw = []) (rest : List Str) (ln : Nat)
    (stack : List Frame) (cur : List Node) :
    goLines inc file base (raw :: rest) ln stack cur = goLines inc file base rest (ln + 1) stack cur := by
  conv => lhs; unfold goLines
  simp [hc, stripSuffixChar]

theorem go_fillers (fl : List (Str × Option Str)) (hf : ∀ f ∈ fl, ∀ x ∈ f.1, isBlank x = true)
    (rest : List Str) (ln : Nat) (stack : List Frame) (cur : List Node) :
    goLines inc file base (fl.map fillerLine ++ rest) ln stack cur =
      goLines inc file base rest (ln + fl.length) stack cur := by
  induction fl generalizing ln with
  | nil => simp
  | cons f fl ih =>
    simp only [List.map_cons, List.cons_append, List.length_cons]
    rw [go_blank inc file base (cleanUp_filler (hf f (by simp)))]
    rw [ih (fun g hg => hf g (by simp [hg]))]
    congr 1; omega

/-- A word shaped like a key, blanks and a value: the line is cut at its first space, and what happens
next depends on whether the word is `include`. -/
theorem go_kv_split {raw key sep value : Str} (hc : cleanUp raw = key ++ ' ' :: sep ++ value)
    (hkey : key ≠ [] ∧ ∀ c ∈ key, isWhitespace c = false ∧ c ≠ '#') (hsep : ∀ x ∈ sep, isBlank x = true)
    (hv : tight value) (hlast : value.getLast? ≠ some '{')
    (rest : List Str) (ln : Nat) (stack : List Frame) (cur : List Node) :
    goLines inc file base (raw :: rest) ln stack cur =
      if key ≠ "include".toList then
        match typeValue key value with
        | .ok node => goLines inc file base rest (ln + 1) stack (node :: cur)
        | .err _ => .err ⟨.badValue, file, ln + 1⟩
        | .panic => .panic
      else if wildcardMatch quotePat value then
        match innerSlice value with
        | none => .panic
        | some path =>
          match inc path file (ln + 1) (base + stack.length + 1) with
          | .ok nodes => goLines inc file base rest (ln + 1) stack (nodes.reverse ++ cur)
          | .err e => .err e
          | .panic => .panic
      else .err ⟨.badInclude, file, ln + 1⟩ := by
  have h1 : stripSuffixChar '{' (key ++ ' ' :: sep ++ value) = none :=
    stripSuffixChar_none (by rw [getLast?_append_ne_nil (tight_ne_nil hv)]; exact hlast)
  have h2 : (key ++ ' ' :: sep ++ value) ≠ ['}'] := by
    intro h
    have : ' ' ∈ (key ++ ' ' :: sep ++ value) := by simp
    rw [h] at this; simp at this
  have h3 : (key ++ ' ' :: sep ++ value).isEmpty = false := by
    cases key <;> simp
  have h4 : splitOnce ' ' (key ++ ' ' :: sep ++ value) = some (key, sep ++ value) := by
    rw [spaced_assoc]; exact splitOnce_append fun c hc e => absurd (e ▸ (hkey.2 c hc).1) (by decide)
  have h5 : trim key = key := trim_tight (Or.inr (contentOk_of_no_ws hkey.1 hkey.2).tight)
  conv => lhs; unfold goLines
  simp only [hc, h1, h2, h3, h4, h5, trim_lead hsep hv, if_false, Bool.false_eq_true]
  rfl

theorem go_missing_value {raw key : Str} (hc : cleanUp raw = key) (hne : key ≠ [])
    (hsp : ∀ c ∈ key, c ≠ ' ') (hlast : key.getLast? ≠ some '{') (hbr : key ≠ ['}'])
    (rest : List Str) (ln : Nat) (stack : List Frame) (cur : List Node) :
    goLines inc file base (raw :: rest) ln stack cur = .err ⟨.syntaxErr, file, ln + 1⟩ := by
  have h1 := stripSuffixChar_none hlast
  have h2 : key.isEmpty = false := by cases key <;> simp_all
  conv => lhs; unfold goLines
  simp only [hc, h1, hbr, h2, splitOnce_none hsp, if_false, Bool.false_eq_true]

theorem go_open {raw hdr gap name : Str} {k : Kind}
    (hc : cleanUp raw = hdr ++ gap ++ ['{']) (hgap : ∀ x ∈ gap, isBlank x = true)
    (hh : tight hdr) (hcl : classify hdr = .ok (k, name))
    (rest : List Str) (ln : Nat) (stack : List Frame) (cur : List Node)
    (hd : base + stack.length + 1 ≤ maxDepth) :
    goLines inc file base (raw :: rest) ln stack cur =
      goLines inc file base rest (ln + 1) ((k, name, cur) :: stack) [] := by
  have h3 : ¬ (base + stack.length + 1 > maxDepth) := by omega
  conv => lhs; unfold goLines
  simp only [hc, stripSuffixChar_snoc, trim_trail hh hgap, hcl, h3, if_false]

theorem go_close_pop {raw : Str} (hc : cleanUp raw = ['}']) (k : Kind) (name : Str)
    (pcur : List Node) (rest : List Str) (ln : Nat) (stack : List Frame) (cur : List Node) :
    goLines inc file base (raw :: rest) ln ((k, name, pcur) :: stack) cur =
      goLines inc file base rest (ln + 1) stack (mkNode k name cur.reverse :: pcur) := by
  have h1 : stripSuffixChar '{' ['}'] = none := by decide
  conv => lhs; unfold goLines
  simp only [hc, h1, if_true]

theorem go_close_done {raw : Str} (hc : cleanUp raw = ['}']) (rest : List Str) (ln : Nat)
    (cur : List Node) : goLines inc file base (raw :: rest) ln [] cur = .ok cur.reverse := by
  have h1 : stripSuffixChar '{' ['}'] = none := by decide
  conv => lhs; unfold goLines
  simp only [hc, h1, if_true]

end Humphrey.Conf
