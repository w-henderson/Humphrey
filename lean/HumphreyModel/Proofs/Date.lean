import HumphreyModel.Model.Date
import HumphreyModel.Spec.Date

/-!
Helper lemmas for C18 (dates): the equations of the specification's calendar, one lemma per block of
`DateTime.from`, the two steps from a day number to a civil date: the year that starts on 1 March
(`marchYear_spec`), then month and day (`civil_of_march_based`), and `from_civil`, which puts them together
for every timestamp; only the cast of the year to `u16` needs a range.
-/
namespace Humphrey.Date
open Humphrey.Date.Spec

theorem isLeap_iff (y : Int) : isLeap y = true ↔ (y % 4 = 0 ∧ y % 100 ≠ 0) ∨ y % 400 = 0 := by
  simp [isLeap]

def leapDay (y : Int) : Int := if isLeap y then 1 else 0

theorem leapDay_range (y : Int) : 0 ≤ leapDay y ∧ leapDay y ≤ 1 := by
  unfold leapDay; split <;> omega

theorem leapDay_of_isLeap {y : Int} (h : isLeap y = true) : leapDay y = 1 := if_pos h

theorem yearLength_eq (y : Int) : yearLength y = 365 + leapDay y := by
  unfold yearLength leapDay; split <;> rfl

theorem feb_len (y : Int) : (if isLeap y = true then (29 : Int) else 28) = 28 + leapDay y := by
  unfold leapDay; split <;> rfl

theorem ediv_pred (y d : Int) (hd : 0 < d) : (y - 1) / d = y / d - if y % d = 0 then 1 else 0 := by
  have h := Int.emod_add_ediv_mul y d
  have h0 := Int.emod_nonneg y (Int.ne_of_gt hd)
  have h1 := Int.emod_lt_of_pos y hd
  split
  · rw [Int.ediv_eq_iff_of_pos hd, Int.sub_mul, Int.one_mul]; omega
  · rw [Int.sub_zero, Int.ediv_eq_iff_of_pos hd]; omega

theorem leapYearsBefore_succ (y : Int) : leapYearsBefore (y + 1) = leapYearsBefore y + leapDay y := by
  have a : y % 400 = 0 → y % 100 = 0 := fun h => by
    rw [← Int.emod_emod_of_dvd y (show (100 : Int) ∣ 400 by decide), h]; rfl
  have b : y % 100 = 0 → y % 4 = 0 := fun h => by
    rw [← Int.emod_emod_of_dvd y (show (4 : Int) ∣ 100 by decide), h]; rfl
  unfold leapYearsBefore leapDay
  rw [Int.add_sub_cancel, ediv_pred y 4 (by decide), ediv_pred y 100 (by decide), ediv_pred y 400 (by decide)]
  generalize y / 4 = q4
  generalize y / 100 = q100
  generalize y / 400 = q400
  -- what is left is the leap rule as a sum of three steps, over the four cases of divisibility that `a`, `b` allow
  by_cases c400 : y % 400 = 0
  · simp [isLeap_iff, c400, a c400, b (a c400)]
    omega
  · by_cases c100 : y % 100 = 0
    · simp [isLeap_iff, c400, c100, b c100]
      omega
    · by_cases c4 : y % 4 = 0
      · simp [isLeap_iff, c400, c100, c4]
        omega
      · simp [isLeap_iff, c400, c100, c4]

/-- The leap years up to and including `y`. -/
theorem leapYearsBefore_add_leapDay (y : Int) :
    leapYearsBefore y + leapDay y = y / 4 - y / 100 + y / 400 := by
  rw [← leapYearsBefore_succ]; unfold leapYearsBefore; rw [Int.add_sub_cancel]

theorem daysBeforeYear_1970 : daysBeforeYear 1970 = 0 := by decide

/-- With `daysBeforeYear_1970`: `daysBeforeYear` is the running sum of the year lengths. -/
theorem daysBeforeYear_succ (y : Int) : daysBeforeYear (y + 1) = daysBeforeYear y + yearLength y := by
  unfold daysBeforeYear
  rw [leapYearsBefore_succ, yearLength_eq]
  omega

/-- February aside, a month is as long as in a common year (year 1 is one). -/
theorem daysInMonth_eq (y : Int) (m : Nat) :
    daysInMonth y m = daysInMonth 1 m + if m = 1 then leapDay y else 0 := by
  unfold daysInMonth
  split <;> first | rfl | exact feb_len y | (rw [if_neg ‹¬ m = 1›]; rfl)

theorem daysBeforeMonth_eq (y : Int) (m : Nat) :
    daysBeforeMonth y m = daysBeforeMonth 1 m + if 2 ≤ m then leapDay y else 0 := by
  induction m with
  | zero => rfl
  | succ m ih =>
    rw [daysBeforeMonth, daysBeforeMonth, ih, daysInMonth_eq y m]
    grind

theorem daysBeforeMonth_12 (y : Int) : daysBeforeMonth y 12 = yearLength y := by
  rw [daysBeforeMonth_eq, yearLength_eq]; rfl

theorem daysInMonth_range (y : Int) (m : Nat) : 0 ≤ daysInMonth y m ∧ daysInMonth y m ≤ 31 := by
  unfold daysInMonth; split <;> (try split) <;> omega

theorem daysBeforeMonth_mono (y : Int) (m n : Nat) (h : m ≤ n) :
    daysBeforeMonth y m ≤ daysBeforeMonth y n := by
  induction n with
  | zero => rw [Nat.le_zero.mp h]; exact Int.le_refl _
  | succ n ih =>
    rcases Nat.le_succ_iff.mp h with h | h
    · have := daysInMonth_range y n; have := ih h; rw [daysBeforeMonth]; omega
    · rw [h]; exact Int.le_refl _

theorem month_end_le (y : Int) (m : Nat) (hm : m < 12) :
    daysBeforeMonth y m + daysInMonth y m ≤ 365 + leapDay y := by
  have := daysBeforeMonth_mono y (m + 1) 12 hm
  rwa [daysBeforeMonth_12, yearLength_eq, daysBeforeMonth] at this

theorem daysBeforeYear_mono (x y : Int) (h : x ≤ y) : daysBeforeYear x ≤ daysBeforeYear y := by
  obtain ⟨n, rfl⟩ := Int.le.dest h
  induction n with
  | zero => rw [Int.natCast_zero, Int.add_zero]; exact Int.le_refl _
  | succ n ih =>
    have := leapDay_range (x + n)
    have := ih (Int.le_add_of_nonneg_right (Int.natCast_nonneg n))
    rw [Int.natCast_succ, ← Int.add_assoc, daysBeforeYear_succ, yearLength_eq]
    omega

/-- A date whose day number lies in 1970-01-01 … 9999-12-31 is in a year 1970 … 9999
(`2932896 = 253402300799 / 86400` is the day number of 9999-12-31): a day of an earlier year lies before
1 January 1970, a day of a later year not before 1 January 10000. -/
theorem year_range (Y : Int) (m : Nat) (d : Int) (hm : m < 12) (hd1 : 1 ≤ d) (hd2 : d ≤ daysInMonth Y m)
    (h0 : 0 ≤ daysFromCivil Y m d) (h1 : daysFromCivil Y m d ≤ 2932896) : 1970 ≤ Y ∧ Y ≤ 9999 := by
  have hbm : 0 ≤ daysBeforeMonth Y m := daysBeforeMonth_mono Y 0 m (Nat.zero_le m)
  have hend := month_end_le Y m hm
  have hs := daysBeforeYear_succ Y
  rw [yearLength_eq] at hs
  unfold daysFromCivil at h0 h1
  constructor
  · apply Int.not_lt.mp
    intro hY
    have := daysBeforeYear_mono (Y + 1) 1970 hY
    rw [daysBeforeYear_1970] at this
    omega
  · apply Int.not_lt.mp
    intro hY
    have := daysBeforeYear_mono 10000 Y hY
    rw [show daysBeforeYear 10000 = 2932897 by decide] at this
    omega

/-- Rust's `/` and `%` truncate; with the fix-up of a negative remainder that follows them in `from` they are
floor division. -/
theorem floor_of_trunc (a b : Int) (hb : 0 < b) :
    (if a.tmod b < 0 then (a.tdiv b - 1, a.tmod b + b) else (a.tdiv b, a.tmod b)) = (a / b, a % b) := by
  have h := Int.mul_tdiv_add_tmod a b
  have hlt := Int.tmod_lt_of_pos a hb
  have hgt := Int.lt_tmod_of_pos a hb
  split
  · have := (Int.ediv_emod_unique hb (a := a) (q := a.tdiv b - 1) (r := a.tmod b + b)).mpr
      ⟨by rw [Int.mul_sub, Int.mul_one]; omega, by omega, by omega⟩
    rw [this.1, this.2]
  · have := (Int.ediv_emod_unique hb (a := a) (q := a.tdiv b) (r := a.tmod b)).mpr ⟨by omega, by omega, hlt⟩
    rw [this.1, this.2]

theorem splitSeconds_eq (s : Int) : splitSeconds s = (s / 86400, s % 86400) :=
  floor_of_trunc s 86400 (by decide)

theorem split400_eq (d : Int) : split400 d = (d / 146097, d % 146097) :=
  floor_of_trunc d 146097 (by decide)

theorem weekdayOf_eq (days : Int) : weekdayOf days = (days + 3) % 7 := by
  have := congrArg Prod.snd (floor_of_trunc (days + 3) 7 (by decide))
  rwa [apply_ite Prod.snd] at this

theorem floor_spec (a b : Int) (hb : 0 < b) : a / b * b + a % b = a ∧ 0 ≤ a % b ∧ a % b < b :=
  ⟨Int.ediv_mul_add_emod a b, Int.emod_nonneg a (Int.ne_of_gt hb), Int.emod_lt_of_pos a hb⟩

theorem DAYS_100_YEARS_eq : DAYS_100_YEARS = 36524 := by decide
theorem DAYS_4_YEARS_eq : DAYS_4_YEARS = 1461 := by decide

/-- The days are counted from 2000-03-01, day `11017 = 951868800 / 86400` of the Unix era and a Wednesday:
`3 - 11017 = 4 - 1574 * 7`. -/
theorem weekday_eq (t : Int) : ((t - 951868800) / 86400 + 3) % 7 = weekdaySpec t := by
  unfold weekdaySpec
  rw [show t - 951868800 = t + -11017 * 86400 from rfl, Int.add_mul_ediv_right _ _ (by decide)]
  generalize t / 86400 = x
  rw [show x + -11017 + 3 = 4 + x + -1574 * 7 by omega, Int.add_mul_emod_self_right]

theorem split100_spec (r : Int) (h0 : 0 ≤ r) (h1 : r < 146097) :
    (split100 r).1 * 36524 + (split100 r).2 = r ∧ 0 ≤ (split100 r).1 ∧ (split100 r).1 ≤ 3 ∧
    0 ≤ (split100 r).2 ∧ (split100 r).2 ≤ 36524 ∧ ((split100 r).1 < 3 → (split100 r).2 < 36524) := by
  unfold split100
  simp only [DAYS_100_YEARS_eq, Int.tdiv_eq_ediv_of_nonneg h0]
  split <;> omega

theorem split4_spec (r : Int) (h0 : 0 ≤ r) (h1 : r ≤ 36524) :
    (split4 r).1 * 1461 + (split4 r).2 = r ∧ 0 ≤ (split4 r).1 ∧ (split4 r).1 ≤ 24 ∧
    0 ≤ (split4 r).2 ∧ (split4 r).2 ≤ 1460 ∧
    (r < 36524 → (split4 r).1 = 24 → (split4 r).2 < 1460) := by
  unfold split4
  simp only [DAYS_4_YEARS_eq, Int.tdiv_eq_ediv_of_nonneg h0]
  split <;> omega

theorem split1_spec (r : Int) (h0 : 0 ≤ r) (h1 : r ≤ 1460) :
    (split1 r).1 * 365 + (split1 r).2 = r ∧ 0 ≤ (split1 r).1 ∧ (split1 r).1 ≤ 3 ∧
    0 ≤ (split1 r).2 ∧ (split1 r).2 ≤ 365 ∧ ((split1 r).1 < 3 → (split1 r).2 < 365) := by
  unfold split1
  simp only [Int.tdiv_eq_ediv_of_nonneg h0]
  split <;> omega

theorem timeOfDay_spec (rs : Int) (h0 : 0 ≤ rs) (h1 : rs < 86400) :
    rs.tdiv 3600 * 3600 + (rs.tdiv 60).tmod 60 * 60 + rs.tmod 60 = rs ∧
    0 ≤ rs.tdiv 3600 ∧ rs.tdiv 3600 < 24 ∧ 0 ≤ (rs.tdiv 60).tmod 60 ∧ (rs.tdiv 60).tmod 60 < 60 ∧
    0 ≤ rs.tmod 60 ∧ rs.tmod 60 < 60 := by
  rw [Int.tdiv_eq_ediv_of_nonneg h0, Int.tdiv_eq_ediv_of_nonneg h0, Int.tmod_eq_emod_of_nonneg h0,
    Int.tmod_eq_emod_of_nonneg (Int.ediv_nonneg h0 (by decide))]
  grind

/-- 1 March of the year `y = a + 4b + 100c + 400q + 2000`, counted from 1970-01-01: `11017` is the day number of
2000-03-01 (`MARCH_01_2000 / 86400`), `59` is January plus February of a common year. Second part: the year that
starts on that day ends with a 29 February when `y + 1` is leap; it is for `a = 3`, unless `y + 1` is a century year
(`b = 24`) not divisible by 400 (`c < 3`). -/
theorem march_first (a b c q : Int) (ha : 0 ≤ a) (ha' : a ≤ 3) (hb : 0 ≤ b) (hb' : b ≤ 24)
    (hc : 0 ≤ c) (hc' : c ≤ 3) (y : Int) (hy : y = a + 4 * b + 100 * c + 400 * q + 2000) :
    daysBeforeYear y + 59 + leapDay y = 11017 + 146097 * q + 36524 * c + 1461 * b + 365 * a ∧
    (a = 3 → (b < 24 ∨ c = 3) → leapDay (y + 1) = 1) := by
  constructor
  · have := leapYearsBefore_add_leapDay y
    unfold daysBeforeYear
    rw [show leapYearsBefore 1970 = 477 from rfl]
    grind
  · intro h3 h
    apply leapDay_of_isLeap
    rw [isLeap_iff]
    grind

/-- The four divisions of `from` find the March-based year `y` of a day number (counted from
2000-03-01) and the day `rd` within it. -/
theorem marchYear_spec (days q r400 c r100 b r4 a rd : Int)
    (e400 : q * 146097 + r400 = days ∧ 0 ≤ r400 ∧ r400 < 146097)
    (h100 : split100 r400 = (c, r100)) (h4 : split4 r100 = (b, r4)) (h1 : split1 r4 = (a, rd))
    (y : Int) (hy : y = a + 4 * b + 100 * c + 400 * q + 2000) :
    days + 11017 = daysBeforeYear y + 59 + leapDay y + rd ∧ 0 ≤ rd ∧ rd < 365 + leapDay (y + 1) := by
  have e100 := split100_spec r400 e400.2.1 e400.2.2
  rw [h100] at e100
  have e4 := split4_spec r100 e100.2.2.2.1 e100.2.2.2.2.1
  rw [h4] at e4
  have e1 := split1_spec r4 e4.2.2.2.1 e4.2.2.2.2.1
  rw [h1] at e1
  simp only at e100 e4 e1
  have hm := march_first a b c q e1.2.1 e1.2.2.1 e4.2.1 e4.2.2.1 e100.2.1 e100.2.2.1 y hy
  have hl := leapDay_range (y + 1)
  refine ⟨?_, e1.2.2.2.1, ?_⟩
  · rw [← e400.1, ← e100.1, ← e4.1, ← e1.1, hm.1]
    clear e400 e100 e4 e1 hm hy h100 h4 h1 hl
    grind
  · -- `rd = 365` needs `a = 3`; then either the year ends with a 29 February, or the century (`b = 24`) was cut short
    by_cases h3 : a = 3
    · by_cases h : b < 24 ∨ c = 3
      · rw [hm.2 h3 h]
        exact Int.lt_add_one_iff.mpr e1.2.2.2.2.1
      · have l100 := e100.2.2.2.2.2
        have l4 := e4.2.2.2.2.2
        have e := e1.1
        have hc := e100.2.2.1
        have hb := e4.2.2.1
        clear e400 e100 e4 e1 hm hy h100 h4 h1
        omega
    · exact Int.lt_of_lt_of_le (e1.2.2.2.2.2 (by omega)) (Int.le_add_of_nonneg_right hl.1)

theorem monthLoop_go (dim : Int) (rest : List Int) (k rd : Int) (h : dim ≤ rd) :
    monthLoop (dim :: rest) k rd = monthLoop rest (k + 1) (rd - dim) := by
  simp only [monthLoop, h, if_true]

theorem monthLoop_stop (dim : Int) (rest : List Int) (k rd : Int) (h : rd < dim) :
    monthLoop (dim :: rest) k rd = some (k, rd) := by
  have : ¬ dim ≤ rd := by omega
  simp only [monthLoop, this, if_false]

/-- The loop stops at the first month `j` that the remaining days do not fill. -/
theorem monthLoop_spec : ∀ (l : List Int) (k rd : Int), 0 ≤ rd → rd < l.sum →
    ∃ j : Nat, j < l.length ∧ monthLoop l k rd = some (k + j, rd - (l.take j).sum) ∧
      0 ≤ rd - (l.take j).sum ∧ rd - (l.take j).sum < l[j]! := by
  intro l
  induction l with
  | nil => intro k rd h0 h1; simp only [List.sum_nil] at h1; omega
  | cons d l ih =>
    intro k rd h0 h1
    by_cases hd : d ≤ rd
    · obtain ⟨j, hj, hml, hr0, hr1⟩ := ih (k + 1) (rd - d) (by omega) (by rw [List.sum_cons] at h1; omega)
      rw [Int.sub_sub] at hml hr0 hr1
      rw [Int.add_assoc, Int.add_comm 1] at hml
      refine ⟨j + 1, Nat.succ_lt_succ hj, ?_⟩
      rw [monthLoop_go _ _ _ _ hd, hml, List.take_succ_cons, List.sum_cons, List.getElem!_cons_succ]
      exact ⟨rfl, hr0, hr1⟩
    · exact ⟨0, Nat.zero_lt_succ _, by rw [monthLoop_stop _ _ _ _ (by omega)]; simp, by simpa using h0,
        by simpa using hd⟩

/-- The code's table of month lengths (March first) against the specification's (January first) in a common
year: entry `j < 10` is month `j + 2`. Entries 10 and 11 are January and February of the next civil year. -/
theorem march_table : ∀ j, j < 10 →
    (DAYS_IN_MONTHS.take j).sum + 59 = daysBeforeMonth 1 (j + 2) ∧ DAYS_IN_MONTHS[j]! = daysInMonth 1 (j + 2) := by
  decide

theorem shiftMonth_lt (j : Nat) (y : Int) (h : j < 10) : shiftMonth j y = (((j + 2 : Nat) : Int), y) := by
  unfold shiftMonth
  rw [if_neg (by omega), Int.natCast_add]
  rfl

theorem asU16_cast (x : Int) (h0 : 0 ≤ x) (h1 : x < 65536) : ((asU16 x : Nat) : Int) = x := by
  rw [asU16, Int.emod_eq_of_lt h0 h1, Int.toNat_of_nonneg h0]

theorem asU8_cast (x : Int) (h0 : 0 ≤ x) (h1 : x < 256) : ((asU8 x : Nat) : Int) = x := by
  rw [asU8, Int.emod_eq_of_lt h0 h1, Int.toNat_of_nonneg h0]

theorem asU8_natCast (n : Nat) (h : n < 256) : asU8 n = n :=
  Int.ofNat_inj.mp (asU8_cast n (Int.natCast_nonneg n) (Int.ofNat_lt.mpr h))

/-- Day `rd` of the year that starts on 1 March of `y`, as the month loop and the shift to a year that
starts in January give it: a valid civil date, the right number of days from 1970-01-01. -/
theorem civil_of_march_based (y rd : Int) (hrd0 : 0 ≤ rd) (hrd : rd < 365 + leapDay (y + 1)) :
    ∃ (k r : Int) (m : Nat), monthLoop DAYS_IN_MONTHS 0 rd = some (k, r) ∧
      asU8 (shiftMonth k y).1 = m ∧ m < 12 ∧ 0 ≤ r ∧ r + 1 ≤ daysInMonth (shiftMonth k y).2 m ∧
      daysFromCivil (shiftMonth k y).2 m (r + 1) = daysBeforeYear y + 59 + leapDay y + rd := by
  have hl' := leapDay_range (y + 1)
  obtain ⟨j, hj, hml, hr0, hr1⟩ := monthLoop_spec DAYS_IN_MONTHS 0 rd hrd0
    (by rw [show DAYS_IN_MONTHS.sum = 366 from rfl]; omega)
  rw [Int.zero_add] at hml
  have hy := daysBeforeYear_succ y
  rw [yearLength_eq] at hy
  rcases (show j < 10 ∨ j = 10 ∨ j = 11 from by have : j < 12 := hj; omega) with h10 | rfl | rfl
  · -- March … December of `y`: its 29 February, if any, lies before
    obtain ⟨hcum, hdim⟩ := march_table j h10
    refine ⟨_, _, j + 2, hml, ?_⟩
    rw [shiftMonth_lt j y h10, daysFromCivil, daysInMonth_eq, daysBeforeMonth_eq, if_neg (by omega),
      if_pos (Nat.le_add_left 2 j)]
    dsimp only
    exact ⟨asU8_natCast _ (by omega), by omega, hr0, by omega, by omega⟩
  · -- January of `y + 1`
    refine ⟨_, _, 0, hml, rfl, by decide, hr0, ?_⟩
    rw [show shiftMonth (10 : Nat) y = (0, y + 1) from rfl, daysFromCivil]
    dsimp only
    rw [hy]
    rw [show (DAYS_IN_MONTHS.take 10).sum = 306 from rfl] at hr0 hr1 ⊢
    rw [show DAYS_IN_MONTHS[10]! = 31 from rfl] at hr1
    rw [show daysInMonth (y + 1) 0 = 31 from rfl, show daysBeforeMonth (y + 1) 0 = 0 from rfl]
    omega
  · -- February of `y + 1`: the table gives it 29 days, its true length comes from `hrd`
    refine ⟨_, _, 1, hml, rfl, by decide, hr0, ?_⟩
    rw [show shiftMonth (11 : Nat) y = (1, y + 1) from rfl, daysFromCivil]
    dsimp only
    rw [hy]
    rw [show (DAYS_IN_MONTHS.take 11).sum = 337 from rfl] at hr0 ⊢
    rw [show daysInMonth (y + 1) 1 = 28 + leapDay (y + 1) from feb_len (y + 1),
      show daysBeforeMonth (y + 1) 1 = 31 from rfl]
    omega

/-- `from` on any timestamp whose distance from 2000-03-01 fits an `i64`: no panic, and all fields but the
year are those of the civil date, time of day and weekday of `t`; the year is the civil year `Y` cut to 16 bits. -/
theorem from_civil (t : Int) (h : -9223372036854775808 ≤ t - MARCH_01_2000) :
    ∃ (d : DateTime) (Y : Int), DateTime.from t = some d ∧ d.timestamp = t ∧ d.year = asU16 Y ∧
      validDate Y d.month d.day d.hour d.minute d.second d.weekday ∧
      daysFromCivil Y d.month d.day * 86400 + d.hour * 3600 + d.minute * 60 + d.second = t ∧
      (d.weekday : Int) = weekdaySpec t := by
  unfold DateTime.from
  rw [if_neg (Int.not_lt.mpr h)]
  rw [show MARCH_01_2000 = 951868800 from rfl]
  rw [splitSeconds_eq]
  have hs := floor_spec (t - 951868800) 86400 (by decide)
  have hw := (weekdayOf_eq _).trans (weekday_eq t)
  generalize (t - 951868800) / 86400 = days at hs hw ⊢
  generalize (t - 951868800) % 86400 = rs at hs ⊢
  simp only [split400_eq]
  have e400 := floor_spec days 146097 (by decide)
  generalize days / 146097 = q at e400 ⊢
  generalize days % 146097 = r400 at e400 ⊢
  generalize weekdayOf days = wd at hw ⊢
  generalize h100 : split100 r400 = p
  obtain ⟨c, r100⟩ := p
  generalize h4 : split4 r100 = p
  obtain ⟨b, r4⟩ := p
  generalize h1y : split1 r4 = p
  obtain ⟨a, rd⟩ := p
  simp only
  generalize hy : a + 4 * b + 100 * c + 400 * q + 2000 = y
  obtain ⟨hA, hrd0, hB⟩ := marchYear_spec days q r400 c r100 b r4 a rd e400 h100 h4 h1y y hy.symm
  obtain ⟨k, r, m, hml, hm, hm12, hr0, hd2, hciv⟩ := civil_of_march_based y rd hrd0 hB
  simp only [hml]
  generalize (shiftMonth k y).2 = Y at hd2 hciv ⊢
  generalize (shiftMonth k y).1 = mo at hm ⊢
  clear e400 h100 h4 h1y hml hB hy
  have h31 := Int.le_trans hd2 (daysInMonth_range Y m).2
  obtain ⟨hTe, hh0, hh1, hmi0, hmi1, hs0, hs1⟩ := timeOfDay_spec rs hs.2.1 hs.2.2
  generalize rs.tdiv 3600 = hour at hTe hh0 hh1 ⊢
  generalize (rs.tdiv 60).tmod 60 = minute at hTe hmi0 hmi1 ⊢
  generalize rs.tmod 60 = second at hTe hs0 hs1 ⊢
  have hwd : 0 ≤ wd ∧ wd < 7 := hw ▸ ⟨Int.emod_nonneg _ (by decide), Int.emod_lt_of_pos _ (by decide)⟩
  refine ⟨_, Y, rfl, rfl, rfl, ?_⟩
  simp only [hm]
  rw [asU8_cast (r + 1) (Int.add_nonneg hr0 (by decide)) (Int.lt_of_le_of_lt h31 (by decide)),
    asU8_cast hour hh0 (Int.lt_trans hh1 (by decide)), asU8_cast minute hmi0 (Int.lt_trans hmi1 (by decide)),
    asU8_cast second hs0 (Int.lt_trans hs1 (by decide)), asU8_cast wd hwd.1 (Int.lt_trans hwd.2 (by decide))]
  refine ⟨⟨hm12, Int.le_add_of_nonneg_left hr0, hd2, hh0, hh1, hmi0, hmi1, hs0, hs1, hwd⟩, ?_, ?_⟩
  · grind
  · exact hw

end Humphrey.Date
