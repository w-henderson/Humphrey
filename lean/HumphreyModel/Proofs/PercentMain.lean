import HumphreyModel.Proofs.Percent

/-! `decode` against `Spec.Denotes`. The `%` arm is analysed once (`decode_pct_eq_some`); soundness, and that a
`%` in accepted text is followed by two digits, are recursions over it. The encoder's output denotes its input,
which with completeness is the round trip. -/
namespace Humphrey.Percent

theorem escape_eq_spec (b : UInt8) (h : Spec.unreserved b = false) : escape b = Spec.encodeByte b := by
  have h16 : b.toNat / 16 < 16 := by have := b.toNat_lt; omega
  have h16' : b.toNat % 16 < 16 := by omega
  simp [escape, Spec.encodeByte, h, hexUpper_eq_spec h16, hexUpper_eq_spec h16']

theorem decode_cons_lit {c : UInt8} (h : c ≠ 37) (s : Bytes) :
    decode (c :: s) = (decode s).map (c :: ·) := by
  rw [decode.eq_def]; simp [h]

/-- When the `%` arm succeeds: two hexadecimal digits follow, and the rest decodes. -/
theorem decode_pct_eq_some {s b : Bytes} (h : decode (37 :: s) = some b) :
    ∃ x y s' hi lo b', s = x :: y :: s' ∧ hexVal x = some hi ∧ hexVal y = some lo ∧
      decode s' = some b' ∧ b = UInt8.ofNat (hi * 16 + lo) :: b' := by
  match s, h with
  | [], h | [_], h => simp [decode] at h
  | x :: y :: s', h =>
    cases hx : hexVal x with
    | none => simp [decode, hx] at h
    | some hi =>
    cases hy : hexVal y with
    | none => simp [decode, hx, hy] at h
    | some lo =>
    simp only [decode, if_true, hx, hy, Option.map_eq_some_iff] at h
    obtain ⟨b', hb', rfl⟩ := h
    exact ⟨x, y, s', hi, lo, b', rfl, hx, hy, hb', rfl⟩

theorem decode_sound : ∀ (s b : Bytes), decode s = some b → Spec.Denotes s b
  | [], b, h => by
    cases h
    exact .nil
  | c :: s, b, h => by
    by_cases hc : c = 37
    · subst hc
      obtain ⟨x, y, s', hi, lo, b', rfl, hx, hy, hd, rfl⟩ := decode_pct_eq_some h
      rw [Nat.mul_comm]
      exact .esc (hexVal_eq_spec x ▸ hx) (hexVal_eq_spec y ▸ hy) (decode_sound s' b' hd)
    · rw [decode_cons_lit hc, Option.map_eq_some_iff] at h
      obtain ⟨b', hb', rfl⟩ := h
      exact .lit hc (decode_sound s b' hb')
termination_by s => s.length
decreasing_by all_goals (subst_vars; simp only [List.length_cons]; omega)

theorem decode_complete {s b : Bytes} (h : Spec.Denotes s b) : decode s = some b := by
  induction h with
  | nil => rfl
  | lit hc _ ih => rw [decode_cons_lit hc, ih]; rfl
  | @esc x y hi lo s b hx hy _ ih =>
    rw [← hexVal_eq_spec] at hx hy
    simp [decode, hx, hy, ih, Nat.mul_comm]

def isHex (c : UInt8) : Prop := (hexVal c).isSome

/-- A `%` in text that decodes is followed by two hexadecimal digits. -/
theorem decode_pct_digits : ∀ (pre : Bytes) {post b : Bytes}, decode (pre ++ 37 :: post) = some b →
    ∃ x y rest, post = x :: y :: rest ∧ (hexVal x).isSome ∧ (hexVal y).isSome
  | [], post, b, h => by
    obtain ⟨x, y, s', hi, lo, -, rfl, hx, hy, -⟩ := decode_pct_eq_some h
    exact ⟨x, y, s', rfl, by simp [hx], by simp [hy]⟩
  | c :: pre, post, b, h => by
    by_cases hc : c = 37
    · subst hc
      obtain ⟨x, y, s', hi, lo, b', hs, hx, hy, hd, -⟩ := decode_pct_eq_some h
      match pre, hs with
      | [], hs =>
        cases hs
        cases hexVal_percent.symm.trans hx
      | [_], hs =>
        cases hs
        cases hexVal_percent.symm.trans hy
      | _ :: _ :: pre', hs =>
        cases hs
        exact decode_pct_digits pre' hd
    · rw [List.cons_append, decode_cons_lit hc, Option.map_eq_some_iff] at h
      obtain ⟨b', hb', -⟩ := h
      exact decode_pct_digits pre hb'

theorem denotes_encode (bs : Bytes) : Spec.Denotes (encode bs) bs := by
  induction bs with
  | nil => exact .nil
  | cons b rest ih =>
    rw [encode]
    split
    · next h => exact .lit (unreserved_ne_percent h) ih
    · have hq : b.toNat / 16 < 16 := by have := b.toNat_lt; omega
      have hr : b.toNat % 16 < 16 := by omega
      have := Spec.Denotes.esc (hexVal_eq_spec _ ▸ hexVal_hexUpper hq)
        (hexVal_eq_spec _ ▸ hexVal_hexUpper hr) ih
      rwa [Nat.div_add_mod, UInt8.ofNat_toNat] at this

theorem decode_encode' (bs : Bytes) : decode (encode bs) = some bs :=
  decode_complete (denotes_encode bs)

end Humphrey.Percent
