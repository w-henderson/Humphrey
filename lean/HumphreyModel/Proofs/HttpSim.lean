import HumphreyModel.Model.Http
import HumphreyModel.Proofs.IO
/-
Segmentation independence of the request parser. `parseRequest` is written against `Source`; two sources are
related by a `Sim` when their states can be paired (`R`) so that both operations deliver the same bytes and
lead to paired states again. The states need not be equal: a chunked reader is paired with the flat stream
it will deliver (`reader_flat_sim`), two readers with one another when they will deliver the same bytes
(`reader_reader_sim`). `parseRequest_sim` carries a `Sim` through the parser; `OutRel` is `R` on outcomes.
-/
namespace Humphrey.Http
open Humphrey Humphrey.IO

structure Sim {σ₁ σ₂ : Type} (S₁ : Source σ₁) (S₂ : Source σ₂) (R : σ₁ → σ₂ → Prop) : Prop where
  readUntil : ∀ d s₁ s₂, R s₁ s₂ →
    (S₁.readUntil d s₁).1 = (S₂.readUntil d s₂).1 ∧ R (S₁.readUntil d s₁).2 (S₂.readUntil d s₂).2
  readExact : ∀ n s₁ s₂, R s₁ s₂ →
    match S₁.readExact n s₁, S₂.readExact n s₂ with
    | none, none => True
    | some (a, t₁), some (b, t₂) => a = b ∧ R t₁ t₂
    | _, _ => False
  remaining : ∀ s₁ s₂, R s₁ s₂ → S₁.remaining s₁ = S₂.remaining s₂

theorem Sim.readExact_cases {σ₁ σ₂ : Type} {S₁ : Source σ₁} {S₂ : Source σ₂} {R : σ₁ → σ₂ → Prop}
    (sim : Sim S₁ S₂ R) (n : Nat) {s₁ : σ₁} {s₂ : σ₂} (h : R s₁ s₂) :
    (S₁.readExact n s₁ = none ∧ S₂.readExact n s₂ = none) ∨
    ∃ a t₁ t₂, S₁.readExact n s₁ = some (a, t₁) ∧ S₂.readExact n s₂ = some (a, t₂) ∧ R t₁ t₂ := by
  have := sim.readExact n s₁ s₂ h
  cases e₁ : S₁.readExact n s₁ <;> cases e₂ : S₂.readExact n s₂ <;> rw [e₁, e₂] at this
  · exact .inl ⟨rfl, rfl⟩
  · exact this.elim
  · exact this.elim
  · exact .inr ⟨_, _, _, rfl, this.1 ▸ rfl, this.2⟩

def OutRel {ε α σ₁ σ₂ : Type} (R : σ₁ → σ₂ → Prop) :
    Outcome ε (α × σ₁) → Outcome ε (α × σ₂) → Prop
  | .ok (a, s₁), .ok (b, s₂) => a = b ∧ R s₁ s₂
  | .err e₁, .err e₂ => e₁ = e₂
  | .panic, .panic => True
  | _, _ => False

theorem OutRel.elim {ε α σ₁ σ₂ : Type} {R : σ₁ → σ₂ → Prop}
    {o₁ : Outcome ε (α × σ₁)} {o₂ : Outcome ε (α × σ₂)} (h : OutRel R o₁ o₂) :
    (∃ a t₁ t₂, o₁ = .ok (a, t₁) ∧ o₂ = .ok (a, t₂) ∧ R t₁ t₂) ∨
    (∃ e, o₁ = .err e ∧ o₂ = .err e) ∨ (o₁ = .panic ∧ o₂ = .panic) := by
  match o₁, o₂, h with
  | .ok (a, t₁), .ok (_, t₂), ⟨rfl, ht⟩ => exact .inl ⟨a, t₁, t₂, rfl, rfl, ht⟩
  | .err e, .err _, rfl => exact .inr (.inl ⟨e, rfl, rfl⟩)
  | .panic, .panic, _ => exact .inr (.inr ⟨rfl, rfl⟩)

theorem OutRel.of_ok_right {ε α σ₁ σ₂ : Type} {R : σ₁ → σ₂ → Prop} {o : Outcome ε (α × σ₁)} {a : α}
    {t : σ₂} (h : OutRel R o (.ok (a, t))) : ∃ s, o = .ok (a, s) ∧ R s t := by
  match o, h with
  | .ok (_, s), ⟨rfl, hs⟩ => exact ⟨s, rfl, hs⟩

theorem OutRel.of_ok_left {ε α σ₁ σ₂ : Type} {R : σ₁ → σ₂ → Prop} {o : Outcome ε (α × σ₂)} {a : α}
    {s : σ₁} (h : OutRel R (.ok (a, s)) o) : ∃ t, o = .ok (a, t) ∧ R s t := by
  match o, h with
  | .ok (_, t), ⟨rfl, hs⟩ => exact ⟨t, rfl, hs⟩

/-- The same outcome with another error: `Response::from_stream` runs the header loop of
`Request::from_stream` and differs from it only in the error it reports. -/
def Outcome.mapErr {ε ε' α : Type} (f : ε → ε') : Outcome ε α → Outcome ε' α
  | .ok a => .ok a
  | .err e => .err (f e)
  | .panic => .panic

theorem Outcome.mapErr_eq_ok {ε ε' α : Type} {f : ε → ε'} {o : Outcome ε α} {a : α} :
    o.mapErr f = .ok a ↔ o = .ok a := by
  cases o with
  | ok b => exact ⟨fun h => by cases h; rfl, fun h => by cases h; rfl⟩
  | err e => exact ⟨nofun, nofun⟩
  | panic => exact ⟨nofun, nofun⟩

theorem OutRel.mapErr {ε ε' α σ₁ σ₂ : Type} {R : σ₁ → σ₂ → Prop} {o₁ : Outcome ε (α × σ₁)}
    {o₂ : Outcome ε (α × σ₂)} (h : OutRel R o₁ o₂) (f : ε → ε') : OutRel R (o₁.mapErr f) (o₂.mapErr f) := by
  match o₁, o₂, h with
  | .ok (_, _), .ok (_, _), h => exact h
  | .err _, .err _, rfl => exact rfl
  | .panic, .panic, _ => exact trivial

theorem parseHeaders_succ {σ : Type} (S : Source σ) (fuel : Nat) (s : σ) (acc : Headers) :
    parseHeaders S (fuel + 1) s acc =
      if (S.readUntil Bytes.LF s).1 = Bytes.crlf then .ok (acc, (S.readUntil Bytes.LF s).2)
      else match parseHeaderLine (S.readUntil Bytes.LF s).1 with
        | .ok h => parseHeaders S fuel (S.readUntil Bytes.LF s).2 (acc ++ [h])
        | .err e => .err e
        | .panic => .panic := rfl

theorem parseHeaders_sim {σ₁ σ₂ : Type} {S₁ : Source σ₁} {S₂ : Source σ₂} {R : σ₁ → σ₂ → Prop}
    (sim : Sim S₁ S₂ R) (fuel : Nat) (s₁ : σ₁) (s₂ : σ₂) (acc : Headers) (h : R s₁ s₂) :
    OutRel R (parseHeaders S₁ fuel s₁ acc) (parseHeaders S₂ fuel s₂ acc) := by
  induction fuel generalizing s₁ s₂ acc with
  | zero => exact rfl
  | succ fuel ih =>
    obtain ⟨hl, hr⟩ := sim.readUntil Bytes.LF s₁ s₂ h
    rw [parseHeaders_succ, parseHeaders_succ, hl]
    split
    · exact ⟨rfl, hr⟩
    · cases parseHeaderLine (S₂.readUntil Bytes.LF s₂).1 with
      | ok hd => exact ih _ _ _ hr
      | err e => exact rfl
      | panic => exact trivial

theorem parseRequest_sim {σ₁ σ₂ : Type} {S₁ : Source σ₁} {S₂ : Source σ₂} {R : σ₁ → σ₂ → Prop}
    (sim : Sim S₁ S₂ R) (env : Env) (s₁ : σ₁) (s₂ : σ₂) (h : R s₁ s₂) :
    OutRel R (parseRequest S₁ env s₁) (parseRequest S₂ env s₂) := by
  unfold parseRequest
  rcases sim.readExact_cases 1 h with ⟨e₁, e₂⟩ | ⟨f, t₁, t₂, e₁, e₂, ht⟩ <;> rw [e₁, e₂]
  · exact rfl
  obtain ⟨hl, hr⟩ := sim.readUntil Bytes.LF t₁ t₂ ht
  simp only []
  rw [hl, sim.remaining _ _ hr]
  cases parseStartLine (f ++ (S₂.readUntil Bytes.LF t₂).1) with
  | none => exact rfl
  | some sl =>
    obtain ⟨method, uri, query, version⟩ := sl
    simp only []
    rcases (parseHeaders_sim sim (S₂.remaining (S₂.readUntil Bytes.LF t₂).2 + 1) _ _ [] hr).elim with
      ⟨hs, u₁, u₂, ea, eb, hu⟩ | ⟨e, ea, eb⟩ | ⟨ea, eb⟩ <;> rw [ea, eb]
    · simp only []
      cases hs.get hContentLength with
      | none => exact ⟨rfl, hu⟩
      | some cl =>
        simp only []
        cases Bytes.parseUsize cl with
        | none => exact rfl
        | some n =>
          simp only []
          rcases sim.readExact_cases n hu with ⟨x₁, x₂⟩ | ⟨b, v₁, v₂, x₁, x₂, hv⟩ <;> rw [x₁, x₂]
          · exact rfl
          · exact ⟨rfl, hv⟩
    · exact rfl
    · exact trivial

theorem reader_flat_sim : Sim readerSource flatSource (fun r b => r.rest = b) where
  readUntil := by
    rintro d r _ rfl
    have := readerSource_readUntil d r
    exact ⟨congrArg Prod.fst this, congrArg Prod.snd this⟩
  readExact := by
    rintro n r _ rfl
    rw [← readerSource_readExact]
    cases readerSource.readExact n r with
    | none => trivial
    | some p => exact ⟨rfl, rfl⟩
  remaining := by
    rintro r _ rfl
    rfl

/-- Parsing from a chunked reader is parsing the concatenated stream: same request (or same
error, or same panic), and the unread remainder is the same byte string. -/
theorem parse_reader_eq_flat (env : Env) (r : Reader) :
    OutRel (fun r b => r.rest = b) (parseRequest readerSource env r)
      (parseRequest flatSource env r.rest) :=
  parseRequest_sim reader_flat_sim env r r.rest rfl

/-- What the flat stream parses to, every chunking of it parses to. -/
theorem parse_chunks_of_flat {env : Env} {chunks : List Bytes} {q : Request} {rest : Bytes}
    (h : parseRequest flatSource env chunks.flatten = .ok (q, rest)) :
    ∃ rd : Reader, parseRequest readerSource env ⟨[], chunks⟩ = .ok (q, rd) ∧ rd.rest = rest := by
  have := parse_reader_eq_flat env ⟨[], chunks⟩
  rw [show (⟨[], chunks⟩ : Reader).rest = chunks.flatten from rfl, h] at this
  exact this.of_ok_right

theorem parseRequest_reader_flat (env : Env) (t : Reader) (req : Request) (t' : Reader)
    (hp : parseRequest readerSource env t = .ok (req, t')) :
    parseRequest flatSource env t.rest = .ok (req, t'.rest) := by
  have := parse_reader_eq_flat env t
  rw [hp] at this
  obtain ⟨_, e, rfl⟩ := this.of_ok_left
  exact e

theorem reader_reader_sim : Sim readerSource readerSource (fun r₁ r₂ => r₁.rest = r₂.rest) where
  readUntil := by
    intro d r₁ r₂ h
    have e := readerSource_readUntil d r₁
    rw [h, ← readerSource_readUntil] at e
    exact Prod.mk.inj e
  readExact := by
    intro n r₁ r₂ h
    have e := readerSource_readExact n r₁
    rw [h, ← readerSource_readExact] at e
    revert e
    rcases readerSource.readExact n r₁ with _ | ⟨a, t₁⟩ <;>
      rcases readerSource.readExact n r₂ with _ | ⟨b, t₂⟩ <;> intro e
    · trivial
    · cases e
    · cases e
    · exact Prod.mk.inj (Option.some.inj e)
  remaining := by
    intro r₁ r₂ h
    exact congrArg List.length h

end Humphrey.Http
