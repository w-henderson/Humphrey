import HumphreyModel.Spec.ConfModel

/-!
The flattened map of `Cfg.toTree` and the look-ups `from_tree` makes in it. The map is
given as a list of entries (dotted key, optional node); as the keys are distinct, a look-up is answered
by the entry of that key (`cfgrt_get_optBs`).
-/
namespace Humphrey.Conf

def cfgrt_optB (key : Str) : Option Node → Map
  | none => []
  | some n => [(key, n)]

theorem cfgrt_get_optB_ne {key q : Str} (h : key ≠ q) (o : Option Node) (m : Map) :
    Map.get (cfgrt_optB key o ++ m) q = Map.get m q := by
  cases o with
  | none => rfl
  | some n => simp [cfgrt_optB, Map.get, h]

theorem cfgrt_get_optB_eq (key : Str) (o : Option Node) (m : Map) :
    Map.get (cfgrt_optB key o ++ m) key = (match o with | some n => some n | none => Map.get m key) := by
  cases o with
  | none => rfl
  | some n => simp [cfgrt_optB, Map.get]

/-- The bindings of a list of optional entries, the first entry being the newest. -/
def cfgrt_optBs : List (Str × Option Node) → Map
  | [] => []
  | e :: es => cfgrt_optB e.1 e.2 ++ cfgrt_optBs es

theorem cfgrt_get_optBs_none {es : List (Str × Option Node)} {key : Str} (h : ∀ e ∈ es, e.1 ≠ key) :
    Map.get (cfgrt_optBs es) key = none := by
  induction es with
  | nil => rfl
  | cons e es ih =>
    rw [cfgrt_optBs, cfgrt_get_optB_ne (h e List.mem_cons_self)]
    exact ih fun e' he' => h e' (List.mem_cons_of_mem _ he')

theorem cfgrt_get_optBs {es : List (Str × Option Node)} (hd : (es.map (·.1)).Nodup) {i : Nat} {key : Str}
    {o : Option Node} (h : es[i]? = some (key, o)) : Map.get (cfgrt_optBs es) key = o := by
  induction es generalizing i with
  | nil => cases h
  | cons e es ih =>
    rw [List.map_cons, List.nodup_cons] at hd
    cases i with
    | zero =>
      cases h
      rw [cfgrt_optBs, cfgrt_get_optB_eq]
      cases o with
      | some n => rfl
      | none => exact cfgrt_get_optBs_none fun e he hk => hd.1 (hk ▸ List.mem_map_of_mem he)
    | succ i =>
      have hne : e.1 ≠ key := fun hk => hd.1 (hk ▸ List.mem_map_of_mem (f := (·.1)) (List.mem_of_getElem? (l := es) h))
      rw [cfgrt_optBs, cfgrt_get_optB_ne hne]
      exact ih hd.2 h

theorem cfgrt_flattenList_append (level : List Str) (a b : List Node) (m : Map) :
    flattenList level (a ++ b) m = flattenList level b (flattenList level a m) := by
  induction a generalizing m with
  | nil => rfl
  | cons n a ih => exact ih _

theorem cfgrt_flatten_strKey (level : List Str) (key : Str) (o : Option Str) (m : Map) :
    flattenList level (strKey key o) m =
      cfgrt_optB (joinDots (level ++ [key])) (o.map (Node.string key)) ++ m := by
  cases o <;> rfl

theorem cfgrt_flatten_numKey (level : List Str) (key : Str) (o : Option Nat) (m : Map) :
    flattenList level (numKey key o) m =
      cfgrt_optB (joinDots (level ++ [key])) (o.map (fun n => Node.number key (showNat n))) ++ m := by
  cases o <;> rfl

theorem cfgrt_flatten_boolKey (level : List Str) (key : Str) (o : Option Bool) (m : Map) :
    flattenList level (boolKey key o) m =
      cfgrt_optB (joinDots (level ++ [key])) (o.map (fun b => Node.boolean key (boolText b))) ++ m := by
  cases o <;> rfl

theorem cfgrt_flatten_optSection (level : List Str) (name : Str) (hn : name ≠ "plugins".toList)
    (cs : List Node) (m : Map) :
    flattenList level (optSection name cs) m = flattenList (level ++ [name]) cs m := by
  unfold optSection
  cases cs with
  | nil => rfl
  | cons n cs => simp only [List.isEmpty_cons, Bool.false_eq_true, if_false, flattenList, flattenNode, if_neg hn]

theorem cfgrt_flatten_itemNodes (level : List Str) (is : List Item) (m : Map) :
    flattenList level (itemNodes is) m = m := by
  induction is with
  | nil => rfl
  | cons i is ih => cases i <;> exact ih

/-- The scalar keys of a model under the dotted names `flatten` gives them, last written first. -/
def cfgrt_entries (c : Cfg) : List (Str × Option Node) :=
  [(k "server.cache.time", c.cacheTime.map fun n => .number ['t', 'i', 'm', 'e'] (showNat n)),
   (k "server.cache.size", c.cacheSize.map fun n => .number ['s', 'i', 'z', 'e'] (showNat n)),
   (k "server.log.file", c.logFile.map (.string ['f', 'i', 'l', 'e'])),
   (k "server.log.console", c.logConsole.map fun b => .boolean ['c', 'o', 'n', 's', 'o', 'l', 'e'] (boolText b)),
   (k "server.log.level", c.logLevel.map fun l => .string ['l', 'e', 'v', 'e', 'l'] l.text),
   (k "server.blacklist.mode", c.blacklistMode.map fun b => .string ['m', 'o', 'd', 'e'] b.text),
   (k "server.blacklist.file", c.blacklist.map fun b => .string ['f', 'i', 'l', 'e'] b.1),
   (k "server.timeout", c.timeout.map fun n => .number ['t', 'i', 'm', 'e', 'o', 'u', 't'] (showNat n)),
   (k "server.websocket", c.websocket.map (.string wsKey)),
   (k "server.threads", c.threads.map fun n => .number ['t', 'h', 'r', 'e', 'a', 'd', 's'] (showNat n)),
   (k "server.port", c.port.map fun n => .number ['p', 'o', 'r', 't'] (showNat n)),
   (k "server.address", c.address.map (.string ['a', 'd', 'd', 'r', 'e', 's', 's']))]

theorem cfgrt_entries_nodup (c : Cfg) : ((cfgrt_entries c).map (·.1)).Nodup := by
  simp only [cfgrt_entries, List.map, k]
  -- A literal unifies with `String.ofList [..]`, so this spells the keys out without evaluating
  -- `String.toList` (left to `decide`, the kernel would decode UTF-8 for every comparison).
  repeat rw [String.toList_ofList]
  decide

theorem cfgrt_ne_plugins {name : Str} (h : name ≠ ['p', 'l', 'u', 'g', 'i', 'n', 's']) : name ≠ "plugins".toList :=
  (String.toList_ofList : "plugins".toList = _) ▸ h

theorem cfgrt_flatten_server (cs : List Node) :
    flattenNode [] (.section "server".toList cs) [] = flattenList [['s', 'e', 'r', 'v', 'e', 'r']] cs [] := by
  rw [String.toList_ofList, flattenNode, if_neg (cfgrt_ne_plugins (by decide))]
  rfl

theorem cfgrt_flatten_toTree (c : Cfg) : flattenNode [] c.toTree [] = cfgrt_optBs (cfgrt_entries c) := by
  have n1 : ['b', 'l', 'a', 'c', 'k', 'l', 'i', 's', 't'] ≠ "plugins".toList := cfgrt_ne_plugins (by decide)
  have n2 : ['l', 'o', 'g'] ≠ "plugins".toList := cfgrt_ne_plugins (by decide)
  have n3 : ['c', 'a', 'c', 'h', 'e'] ≠ "plugins".toList := cfgrt_ne_plugins (by decide)
  unfold Cfg.toTree Cfg.children Cfg.scalarNodes cfgrt_entries
  simp only [cfgrt_flatten_server, cfgrt_flattenList_append, cfgrt_flatten_strKey, cfgrt_flatten_numKey,
    cfgrt_flatten_boolKey, cfgrt_flatten_optSection _ _ n1, cfgrt_flatten_optSection _ _ n2,
    cfgrt_flatten_optSection _ _ n3, cfgrt_flatten_itemNodes, List.cons_append, List.nil_append, cfgrt_optBs,
    Option.map_map, Function.comp_def, k]
  repeat rw [String.toList_ofList]
  simp only [joinDots, wsKey, List.cons_append, List.nil_append]

theorem cfgrt_get_toTree (c : Cfg) {i : Nat} {key : Str} {o : Option Node}
    (h : (cfgrt_entries c)[i]? = some (key, o)) : Map.get (flattenNode [] c.toTree []) key = o := by
  rw [cfgrt_flatten_toTree]
  exact cfgrt_get_optBs (cfgrt_entries_nodup c) h

end Humphrey.Conf
