import HumphreyModel.Model.Response
import HumphreyModel.Spec.HttpMsg
import HumphreyModel.Proofs.HttpReqBytes
/-
Byte-level lemmas shared by the C07 round-trip theorems and the C01 spec theorem: the decimal
recursion of `natToBytes` and its number of digits, CRLF-terminated lines under `Spec.splitLine` and `read_until`,
`asciiLower` and the token characters.
-/
namespace Humphrey.Bytes
open Humphrey

theorem natToBytesAux_eq (n : Nat) : ∀ fuel acc, n < fuel → natToBytesAux fuel n acc = natToBytes n ++ acc := by
  induction n using Nat.strongRecOn with
  | _ n ih =>
    intro fuel acc h
    obtain ⟨f, rfl⟩ : ∃ f, fuel = f + 1 := ⟨fuel - 1, by omega⟩
    rw [natToBytes, natToBytesAux, natToBytesAux]
    by_cases h0 : n / 10 = 0
    · simp [h0]
    · simp only [h0, if_false]
      rw [ih (n / 10) (by omega) f _ (by omega), ih (n / 10) (by omega) n _ (by omega)]
      simp

/-- `to_string` by its decimal recursion: the digits of `n / 10`, then the last digit. -/
theorem natToBytes_eq (n : Nat) :
    natToBytes n = if n / 10 = 0 then [48 + (n % 10).toUInt8]
      else natToBytes (n / 10) ++ [48 + (n % 10).toUInt8] := by
  rw [natToBytes, natToBytesAux]
  split
  · rfl
  · exact natToBytesAux_eq _ _ _ (by omega)

/-- The number of digits: `10 ^ (len - 1) ≤ n < 10 ^ len` (the lower bound not for the single digit 0). -/
theorem natToBytes_length (n : Nat) :
    n < 10 ^ (natToBytes n).length ∧
    ((natToBytes n).length = 1 ∨ 10 ^ ((natToBytes n).length - 1) ≤ n) := by
  induction n using Nat.strongRecOn with
  | _ n ih =>
    rw [natToBytes_eq]
    split
    · exact ⟨by simp only [List.length_singleton, Nat.pow_one]; omega, .inl rfl⟩
    · obtain ⟨h5, h6⟩ := ih (n / 10) (by omega)
      have hlen : 1 ≤ (natToBytes (n / 10)).length := List.length_pos_iff.mpr (natToBytes_digits _).1
      simp only [List.length_append, List.length_singleton, Nat.add_sub_cancel, Nat.pow_succ]
      generalize (natToBytes (n / 10)).length = k at h5 h6 hlen ⊢
      have : 10 ^ k = 10 ^ (k - 1) * 10 := by
        rw [← Nat.pow_succ]; congr 1; omega
      refine ⟨by omega, .inr ?_⟩
      rcases h6 with h6 | h6
      · rw [h6]; omega
      · omega

theorem isDigit_facts (b : UInt8) (h : isDigit b = true) :
    b ≠ 43 ∧ b ≠ 32 ∧ b ≠ 13 ∧ b ≠ 10 ∧ b ≠ 58 ∧ b < 128 := by
  simp only [isDigit, Bool.and_eq_true, decide_eq_true_eq, UInt8.le_iff_toNat_le, UInt8.toNat_ofNat] at h
  simp only [ne_eq, ← UInt8.toNat_inj, UInt8.lt_iff_toNat_lt, UInt8.toNat_ofNat]
  omega

theorem natToBytes_length_three (n : Nat) (h1 : 100 ≤ n) (h2 : n ≤ 999) :
    (natToBytes n).length = 3 := by
  obtain ⟨hlt, hge⟩ := natToBytes_length n
  generalize (natToBytes n).length = k at hlt hge
  have lo : ¬ k ≤ 2 := fun hk => by
    have := Nat.pow_le_pow_right (n := 10) (by omega) hk; omega
  have hi : ¬ 3 ≤ k - 1 := fun hk => by
    have := Nat.pow_le_pow_right (n := 10) (by omega) hk; omega
  omega

theorem splitLine_append (l t : Bytes) (h : ∀ b ∈ l, b ≠ 13) :
    Spec.splitLine (l ++ 13 :: 10 :: t) = some (l, t) := by
  induction l with
  | nil => simp [Spec.splitLine]
  | cons a as ih =>
    have ha : a ≠ 13 := h a (by simp)
    have ih' := ih (fun b hb => h b (by simp [hb]))
    cases as with
    | nil =>
      simp only [List.cons_append, List.nil_append] at ih' ⊢
      simp [Spec.splitLine, ha]
    | cons a2 as2 =>
      simp only [List.cons_append] at ih' ⊢
      simp [Spec.splitLine, ha, ih']

/-- `read_until(b'\n')` on a CRLF-terminated line. -/
theorem flatReadUntil_line (l t : Bytes) (h : ∀ b ∈ l, b ≠ 10) :
    IO.flatReadUntil 10 (l ++ 13 :: 10 :: t) = (l ++ [13, 10], t) := by
  have hl : (10 : UInt8) ∉ l ++ [13] := by
    rw [List.mem_append, List.mem_singleton]
    exact fun hm => hm.elim (fun hm => h 10 hm rfl) (by decide)
  simpa using IO.flatReadUntil_append_delim t hl

/-- Lower-casing moves `A`–`Z` onto `a`–`z`, inside the token characters. -/
theorem isTchar_lowerByte (b : UInt8) (h : Spec.isTchar b = true) : Spec.isTchar (lowerByte b) = true := by
  unfold lowerByte
  split
  · rename_i hc
    simp only [Spec.isTchar, Bool.or_eq_true, Bool.and_eq_true, decide_eq_true_eq, UInt8.le_iff_toNat_le,
      ← UInt8.toNat_inj, UInt8.toNat_ofNat, UInt8.toNat_add] at hc ⊢
    omega
  · exact h

theorem isTchar_facts (b : UInt8) (h : Spec.isTchar b = true) :
    b ≠ 58 ∧ b ≠ 13 ∧ b ≠ 10 ∧ b ≠ 32 ∧ b < 128 := by
  simp only [Spec.isTchar, Bool.or_eq_true, Bool.and_eq_true, decide_eq_true_eq, UInt8.le_iff_toNat_le,
    ← UInt8.toNat_inj, UInt8.lt_iff_toNat_lt, ne_eq, UInt8.toNat_ofNat] at h ⊢
  omega

end Humphrey.Bytes
