import HumphreyModel.Proofs.WsFrameBytes
import HumphreyModel.Proofs.WsFrameRead

/-!
Decoding (over flat bytes) any prefix of `encodeFrame f ++ tail`: `ReadError` while the prefix is
shorter than the frame, the frame itself (and what is left of the prefix) from then on.
The three length classes are the case split of `readLength_ext`. Then the transfer from the flat
decoder to the decoder over a script of reads.
-/
namespace Humphrey.WsFrame

theorem takeExact_take_append (a b : Bytes) (k n : Nat) (hk : a.length = k) :
    takeExact k (List.take n (a ++ b)) =
      if k ≤ n then some (a, List.take (n - k) b) else none := by
  subst hk
  unfold takeExact
  by_cases h : a.length ≤ n
  · have e : List.take n (a ++ b) = a ++ List.take (n - a.length) b := by
      rw [List.take_append, List.take_of_length_le h]
    rw [e, if_pos h, if_pos (by simp)]
    simp
  · rw [if_neg h, if_neg]
    simp only [List.length_take, List.length_append]; omega

theorem field_take_append {α : Type} (g : Bytes → Option α) (a b : Bytes) (k n : Nat)
    (hk : a.length = k) :
    field takeExact k g (List.take n (a ++ b)) =
      if k ≤ n then (g a).map (·, List.take (n - k) b) else none := by
  unfold field
  rw [takeExact_take_append a b k n hk]
  by_cases h : k ≤ n <;> simp only [h, if_true, if_false]

theorem readLength_ext (f : Frame) (h64 : f.length < 18446744073709551616) (rest : Bytes) (m : Nat) :
    ((lenByte f &&& 0x80) != 0) = f.mask ∧
    readLength takeExact (lenByte f &&& 0x7F).toNat (List.take m (extLen f ++ rest)) =
      if (extLen f).length ≤ m then some (f.length, List.take (m - (extLen f).length) rest)
      else none := by
  obtain ⟨hm, hl⟩ := lenByte_decode _ (len7_lt f.length) f.mask
  refine ⟨hm, ?_⟩
  rw [show (lenByte f &&& 0x7F).toNat = len7 f.length from hl, readLength_eq]
  unfold len7 extLen
  by_cases h1 : f.length < 126
  · have n126 : f.length ≠ 126 := by omega
    have n127 : f.length ≠ 127 := by omega
    simp only [h1, if_true, n126, n127, if_false, List.nil_append, List.length_nil, Nat.zero_le,
      Nat.sub_zero]
  · by_cases h2 : f.length < 65536
    · simp only [h1, h2, if_true, if_false]
      rw [field_take_append _ _ _ 2 m (by rfl), fromBe_be16 f.length h2]
      rfl
    · simp only [h1, h2, if_false, show (127 : Nat) ≠ 126 by decide]
      rw [field_take_append _ _ _ 8 m (by rfl), fromBe_be64 f.length h64]
      rfl

theorem readKey_keyBytes (f : Frame) (rest : Bytes) (m : Nat) :
    readKey takeExact f.mask (List.take m (keyBytes f ++ rest)) =
      if (keyBytes f).length ≤ m
      then some (if f.mask then f.key else Key.zero, List.take (m - (keyBytes f).length) rest)
      else none := by
  rw [readKey_eq]
  unfold keyBytes
  cases f.mask with
  | false => simp
  | true =>
    simp only [if_true]
    rw [field_take_append _ _ _ 4 m (by rfl)]
    rfl

theorem unmask_wirePayload (f : Frame) :
    xorKey (if f.mask then f.key else Key.zero) 0 (wirePayload f) = f.payload := by
  unfold wirePayload
  cases f.mask with
  | true => exact xorKey_xorKey _ _ _
  | false => exact xorKey_zero _ _

theorem decodeFlat_take_encode (f : Frame) (hwf : f.wf) (tail : Bytes) (n : Nat) :
    decodeFlat (List.take n (encodeFrame f ++ tail)) =
      if (encodeFrame f).length ≤ n
      then ⟨some f.length, .ok (f.normKey, List.take (n - (encodeFrame f).length) tail)⟩
      else ⟨if 2 + (extLen f).length + (keyBytes f).length ≤ n then some f.length else none,
            .error .readError⟩ := by
  obtain ⟨hlen, h64⟩ := hwf
  -- the prefix covers the frame, or its header up to the key, iff it covers each field in turn
  have htot : 2 + (extLen f).length + (keyBytes f).length + f.payload.length ≤ n ↔
      2 ≤ n ∧ (extLen f).length ≤ n - 2 ∧ (keyBytes f).length ≤ n - 2 - (extLen f).length ∧
        f.length ≤ n - 2 - (extLen f).length - (keyBytes f).length := by omega
  have halloc : 2 + (extLen f).length + (keyBytes f).length ≤ n ↔
      2 ≤ n ∧ (extLen f).length ≤ n - 2 ∧ (keyBytes f).length ≤ n - 2 - (extLen f).length := by
    omega
  rw [encodeFrame_length, encodeFrame_split]
  simp only [htot, halloc]
  unfold decodeFlat decodeWith
  rw [List.append_assoc, takeExact_take_append _ _ 2 n (by simp)]
  by_cases h2 : 2 ≤ n <;> simp only [h2, if_true, if_false, true_and, false_and]
  unfold innerWith
  obtain ⟨hfin, hr1, hr2, hr3, hop⟩ := header0_decode f
  obtain ⟨hmask, hrl⟩ := readLength_ext f h64 (keyBytes f ++ wirePayload f ++ tail) (n - 2)
  simp only [hfin, hr1, hr2, hr3, hop, hmask]
  rw [List.append_assoc, List.append_assoc, ← List.append_assoc (keyBytes f), hrl]
  by_cases he : (extLen f).length ≤ n - 2 <;> simp only [he, if_true, if_false, true_and, false_and]
  rw [List.append_assoc, readKey_keyBytes]
  by_cases hk : (keyBytes f).length ≤ n - 2 - (extLen f).length <;>
    simp only [hk, if_true, if_false, true_and, false_and]
  rw [takeExact_take_append _ _ f.length _ (by rw [wirePayload_length, hlen])]
  by_cases hp : f.length ≤ n - 2 - (extLen f).length - (keyBytes f).length <;>
    simp only [hp, if_true, if_false, unmask_wirePayload]
  have e : n - 2 - (extLen f).length - (keyBytes f).length - f.length
      = n - (2 + (extLen f).length + (keyBytes f).length + f.payload.length) := by
    rw [← Nat.sub_sub, ← Nat.sub_sub, ← Nat.sub_sub, hlen]
  rw [e]; rfl

theorem decodeFlat_encode_append (f : Frame) (hwf : f.wf) (tail : Bytes) :
    decodeFlat (encodeFrame f ++ tail) = ⟨some f.length, .ok (f.normKey, tail)⟩ := by
  have h := decodeFlat_take_encode f hwf tail (encodeFrame f ++ tail).length
  rw [List.take_length] at h
  rw [h, if_pos (by simp)]
  simp

theorem decodeFlat_take_encode_lt (f : Frame) (hwf : f.wf) (n : Nat)
    (hn : n < (encodeFrame f).length) :
    (decodeFlat ((encodeFrame f).take n)).result = .error .readError := by
  have h := decodeFlat_take_encode f hwf [] n
  rw [List.append_nil] at h
  rw [h, if_neg (by omega)]

theorem decodeFrame_error_of_flat {s : List Bytes} (h : NonEmptyReads s) {e : WsErr}
    (hf : (decodeFlat s.flatten).result = .error e) : decodeFrame s = .error e :=
  (decodeFrameFull_flat s h).error_right hf

theorem decodeFrame_ok_of_flat {s : List Bytes} (h : NonEmptyReads s) {f : Frame} {tl : Bytes}
    (hf : (decodeFlat s.flatten).result = .ok (f, tl)) :
    ∃ rest, decodeFrame s = .ok (f, rest) ∧ NonEmptyReads rest ∧ rest.flatten = tl :=
  (decodeFrameFull_flat s h).ok_right hf

/-- What the caller can observe of a decode: the frame (or error) and the bytes not consumed. -/
def observe (r : Except WsErr (Frame × List Bytes)) : Except WsErr (Frame × Bytes) :=
  match r with
  | .error e => .error e
  | .ok (f, rest) => .ok (f, rest.flatten)

theorem observe_decodeFrame (s : List Bytes) (h : NonEmptyReads s) :
    observe (decodeFrame s) = (decodeFlat s.flatten).result ∧
    (decodeFrameFull s).alloc = (decodeFlat s.flatten).alloc := by
  have hrel := decodeFrameFull_flat s h
  refine ⟨?_, hrel.1⟩
  cases hf : (decodeFlat s.flatten).result with
  | error e => rw [decodeFrame_error_of_flat h hf]; rfl
  | ok p =>
    obtain ⟨rest, h1, _, hfl⟩ := decodeFrame_ok_of_flat (f := p.1) (tl := p.2) h hf
    rw [h1, observe, hfl]

theorem nonEmptyReads_flatten_nil {s : List Bytes} (h : NonEmptyReads s) (hf : s.flatten = []) :
    s = [] := by
  cases s with
  | nil => rfl
  | cons c cs =>
    exfalso
    have hc : c ≠ [] := h c (by simp)
    simp only [List.flatten_cons, List.append_eq_nil_iff] at hf
    exact hc hf.1

theorem ofNat?_table : ∀ n, n < 16 → (Opcode.ofNat? n).isNone = Spec.reservedOpcode n := by decide

theorem ofNat?_reserved {n : Nat} (h : Spec.reservedOpcode n = true) : Opcode.ofNat? n = none := by
  have hn : n < 16 := by
    simp only [Spec.reservedOpcode, Bool.or_eq_true, Bool.and_eq_true, decide_eq_true_eq] at h
    omega
  rw [← Option.isNone_iff_eq_none, ofNat?_table n hn, h]

theorem decodeFlat_reserved (b0 b1 : UInt8) (rest : Bytes)
    (h : Spec.reservedOpcode (b0 &&& 0xF).toNat = true) :
    decodeFlat (b0 :: b1 :: rest) = ⟨none, .error .invalidOpcode⟩ := by
  unfold decodeFlat decodeWith
  have : takeExact 2 (b0 :: b1 :: rest) = some ([b0, b1], rest) := by simp [takeExact]
  rw [this]
  simp only [innerWith, ofNat?_reserved h]

end Humphrey.WsFrame
