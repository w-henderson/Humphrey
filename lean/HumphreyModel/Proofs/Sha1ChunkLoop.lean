import HumphreyModel.Proofs.Sha1Block

/-!
Helper lemmas for C18 (SHA-1): the chunk loop of `sha1.rs` against RFC 3174 §6.1 — the 80-word schedule
built in place against `W(t)`, the round loop against the `A…E` recurrence, the iteration over chunks, the digest.
-/
namespace Humphrey.Sha1
open Humphrey.Rfc3174

theorem W_step (bits : List Bool) (t : Nat) (h : 16 ≤ t) :
    W bits t = S 1 (W bits (t - 3) ^^^ W bits (t - 8) ^^^ W bits (t - 14) ^^^ W bits (t - 16)) := by
  rw [W, dif_neg (by omega)]

theorem W_base (bits : List Bool) (t : Nat) (h : t < 16) : W bits t = M bits t := by
  rw [W, dif_pos h]

/-- What the in-place extension maintains: the words present are `W(0), W(1), …`. -/
def SchedInv (bits : List Bool) (ws : Array UInt32) : Prop :=
  16 ≤ ws.size ∧ ws.toList = (List.range ws.size).map (W bits)

theorem SchedInv.get {bits : List Bool} {ws : Array UInt32} (h : SchedInv bits ws) (t : Nat)
    (ht : t < ws.size) : ws[t]! = W bits t := by
  rw [Array.getElem!_eq_getD, Array.getD_eq_getD_getElem?, ← Array.getElem?_toList, h.2, List.getElem?_map,
    List.getElem?_range ht]
  rfl

theorem SchedInv.extend {bits : List Bool} (k : Nat) : ∀ {ws : Array UInt32}, SchedInv bits ws →
    SchedInv bits (extend ws k) := by
  induction k with
  | zero => exact id
  | succ k ih =>
    intro ws h
    have h16 := h.1
    apply ih
    refine ⟨by rw [Array.size_push]; omega, ?_⟩
    rw [Array.toList_push, Array.size_push, List.range_succ, List.map_append, List.map_singleton, ← h.2,
      h.get _ (by omega), h.get _ (by omega), h.get _ (by omega), h.get _ (by omega), W_step bits _ h16]
    rfl

theorem extend_size (k : Nat) : ∀ ws : Array UInt32, (extend ws k).size = ws.size + k := by
  induction k with
  | zero => intro ws; rfl
  | succ k ih => intro ws; rw [extend, ih, Array.size_push]; omega

/-- The 80-word array that `sha1.rs` builds in place for a 64-byte chunk is `W(0) … W(79)`. -/
theorem schedule_toList (block : Bytes) (h : block.length = 64) :
    (schedule block).toList = (List.range 80).map (W (bitsOfBytes block)) := by
  have hlen : (wordsOfBytes block).toArray.size = 16 := by rw [List.size_toArray, wordsOfBytes_length, h]
  have h0 : SchedInv (bitsOfBytes block) (wordsOfBytes block).toArray := by
    refine ⟨Nat.le_of_eq hlen.symm, ?_⟩
    rw [hlen, List.toList_toArray, wordsOfBytes_eq_M, h]
    exact List.map_congr_left fun t ht => (W_base _ t (List.mem_range.mp ht)).symm
  have := (h0.extend 64).2
  rwa [extend_size, hlen] at this

def toState (r : Regs) : State := { a := r.A, b := r.B, c := r.C, d := r.D, e := r.E }

/-- One round of the code is one iteration of §6.1.d: `f` and `K` split on the same four ranges of `t`, and the code's
`TEMP` has the RFC's five summands with the last two in the other order (`… + e + k + tem` for `… + E + W(t) + K(t)`). -/
theorem step_eq (bits : List Bool) (H : Regs) (t : Nat) :
    step t (W bits t) (toState (regs bits H t)) = toState (regs bits H (t + 1)) := by
  simp only [step, regs, iteration, toState, Rfc3174.f, Rfc3174.K, rotl, S]
  by_cases h1 : t ≤ 19
  · simp only [h1, if_true, State.mk.injEq, and_true]; ac_rfl
  · by_cases h2 : t ≤ 39
    · simp only [h1, h2, if_true, if_false, State.mk.injEq, and_true]; ac_rfl
    · by_cases h3 : t ≤ 59
      · simp only [h1, h2, h3, if_true, if_false, State.mk.injEq, and_true]; ac_rfl
      · simp only [h1, h2, h3, if_false, State.mk.injEq, and_true]; ac_rfl

theorem rounds_eq (bits : List Bool) (H : Regs) (n : Nat) : ∀ i,
    rounds ((List.range' i n).map (W bits)) i (toState (regs bits H i)) = toState (regs bits H (i + n)) := by
  induction n with
  | zero => intro i; rfl
  | succ n ih =>
    intro i
    rw [List.range'_succ, List.map_cons, rounds, step_eq, ih, Nat.add_right_comm, Nat.add_assoc]

theorem compress_eq (H : Regs) (block : Bytes) (h : block.length = 64) :
    compress (toState H) block = toState (processBlock H (bitsOfBytes block)) := by
  have hr : rounds (schedule block).toList 0 (toState H) = toState (regs (bitsOfBytes block) H 80) := by
    rw [schedule_toList block h, List.range_eq_range']
    exact rounds_eq _ H 80 0
  unfold compress processBlock
  simp only
  rw [hr]
  rfl

theorem processBlocks_zero (msg : List Bool) (H : Regs) : processBlocks 0 msg H = H := by
  unfold processBlocks
  rw [blocks, List.foldl_nil]

theorem processBlocks_succ (k : Nat) (msg : List Bool) (H : Regs) :
    processBlocks (k + 1) msg H = processBlocks k (msg.drop 512) (processBlock H (msg.take 512)) := by
  unfold processBlocks
  rw [blocks, List.foldl_cons]

theorem processChunks_eq : ∀ (k : Nat) (msg : Bytes) (H : Regs), msg.length = 64 * k →
    processChunks k msg (toState H) = toState (processBlocks k (bitsOfBytes msg) H) := by
  intro k
  induction k with
  | zero => intro msg H _; rw [processBlocks_zero]; rfl
  | succ k ih =>
    intro msg H h
    have htake : (msg.take 64).length = 64 := by rw [List.length_take]; omega
    have hdrop : (msg.drop 64).length = 64 * k := by rw [List.length_drop]; omega
    obtain ⟨etake, edrop⟩ := bitsOfBytes_take_drop msg 64 (by omega)
    rw [processBlocks_succ, processChunks, compress_eq H _ htake, ih _ _ hdrop, etake, edrop]

theorem be32_eq_wordBytes (w : UInt32) : be32 w = wordBytes w := rfl

theorem init_eq : init = toState H0 := rfl

theorem sha1_eq_digest (m : Bytes) : sha1 m = digest m := by
  unfold sha1 digest digestBits
  simp only
  rw [← pad_eq_rfc, bitsOfBytes_length, pad_length]
  have e : 8 * paddedLen m.length / 512 = paddedLen m.length / 64 := by omega
  rw [e, init_eq, processChunks_eq _ _ _ (pad_length_chunks m)]
  rfl

end Humphrey.Sha1
