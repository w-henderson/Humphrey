import HumphreyModel.Proofs.PoolInv

/-!
C08: N tasks can run at the same time (the receiver's mutex is released before a task is called).
-/
namespace Humphrey.Pool

theorem worker_takes_task {c : Cfg} {s : State} {j k : Nat} {q : List Msg}
    (hw : s.workers[j]? = some .idle) (hl : s.rxLock = none) (hq : s.queue = .task k :: q) :
    run c s [.reqLock j, .lock j, .recv j, .unlock j, .run j] =
      some { s with workers := s.workers.set j (.running k), queue := q, dequeued := s.dequeued ++ [k],
                    started := s.started ++ [k] } := by
  have e {ws : List Phase} {p q : Phase} (h : ws[j]? = some p) : (ws.set j q)[j]? = some q :=
    List.getElem?_set_self (lt_of_getElem?_some h)
  have w1 := e (q := .waitingLock) hw
  have w2 := e (q := .inRecv) w1
  have w3 := e (q := .got (some (.task k))) w2
  have w4 := e (q := .ready (some (.task k))) w3
  rw [Step.run_cons (.reqLock hw) <| Step.run_cons (.lock w1 hl) <| Step.run_cons (.recvMsg w2 hq) <|
    Step.run_cons (.unlock w3 rfl) <| Step.run_cons (.run w4) rfl]
  simp [setW, taskOf, hl]

/-- The pool is started, no thread has moved yet and `i` tasks are queued. -/
structure Primed (c : Cfg) (i : Nat) (s : State) : Prop where
  reach : Reachable c s
  life : s.life = .started
  caller : s.caller = .idle
  workers : s.workers = List.replicate c.n .idle
  lock : s.rxLock = none
  qlen : s.queue.length = i
  qtasks : ∀ m ∈ s.queue, ∃ k, m = Msg.task k

theorem exists_primed (c : Cfg) : ∀ i, ∃ s, Primed c i s
  | 0 => ⟨_, (Reachable.init c).step (Step.start rfl rfl).to_step, rfl, rfl, rfl, rfl, rfl, nofun⟩
  | i + 1 => by
    obtain ⟨s, hs⟩ := exists_primed c i
    refine ⟨_, hs.reach.step (Step.submit hs.life hs.caller).to_step, hs.life, hs.caller, hs.workers, hs.lock, ?_,
      fun m hm => ?_⟩
    · exact List.length_append.trans (congrArg (· + 1) hs.qlen)
    · rcases List.mem_append.mp hm with hm | hm
      · exact hs.qtasks m hm
      · exact ⟨_, List.mem_singleton.mp hm⟩

/-- Workers `0 … j-1` each run a task, the others are idle, the mutex is free and `c.n - j` tasks are still queued: the
state after `j` rounds of `worker_takes_task` from a `Primed c c.n` state. -/
structure Busy (c : Cfg) (j : Nat) (s : State) : Prop where
  reach : Reachable c s
  len : s.workers.length = c.n
  running : ∀ w, w < j → ∃ k, s.workers[w]? = some (.running k)
  idle : ∀ w, j ≤ w → w < c.n → s.workers[w]? = some .idle
  lock : s.rxLock = none
  qlen : s.queue.length = c.n - j
  qtasks : ∀ m ∈ s.queue, ∃ k, m = Msg.task k

theorem exists_busy (c : Cfg) : ∀ j, j ≤ c.n → ∃ s, Busy c j s
  | 0, _ => by
    obtain ⟨s, hs⟩ := exists_primed c c.n
    refine ⟨s, hs.reach, by simp [hs.workers], by intro w hw; omega, ?_, hs.lock, by simp [hs.qlen], hs.qtasks⟩
    intro w _ hw; simp [hs.workers, hw]
  | j + 1, hj => by
    obtain ⟨s, hs⟩ := exists_busy c j (by omega)
    have hw := hs.idle j (Nat.le_refl j) (by omega)
    obtain ⟨m, q, hq⟩ := List.exists_cons_of_length_pos (l := s.queue) (by rw [hs.qlen]; omega)
    obtain ⟨k, rfl⟩ := hs.qtasks m (hq ▸ List.mem_cons_self)
    refine ⟨_, hs.reach.run (worker_takes_task hw hs.lock hq), by simp [hs.len], ?_, ?_, hs.lock, ?_, ?_⟩
    · intro w hwj
      simp only [getElem?_set_of_some hw]
      by_cases e : j = w
      · exact ⟨k, if_pos e⟩
      · rw [if_neg e]; exact hs.running w (by omega)
    · intro w hjw hwn
      simp only [getElem?_set_of_some hw]
      rw [if_neg (by omega)]; exact hs.idle w (by omega) hwn
    · have := hs.qlen
      rw [hq, List.length_cons] at this
      show q.length = _; omega
    · exact fun m hm => hs.qtasks m (hq ▸ List.mem_cons_of_mem _ hm)

theorem runningCount_eq_length {ws : List Phase}
    (h : ∀ w, w < ws.length → ∃ k, ws[w]? = some (Phase.running k)) : runningCount ws = ws.length :=
  List.length_filter_eq_length_iff.mpr <| forall_mem_of_getElem? fun w p hp => by
    obtain ⟨k, hk⟩ := h w (lt_of_getElem?_some hp)
    cases hk.symm.trans hp; rfl

end Humphrey.Pool
