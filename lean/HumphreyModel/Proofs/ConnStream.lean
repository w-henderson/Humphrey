import HumphreyModel.Proofs.HttpMsgLoop
/-
A condition ON THE CLIENT BYTE STREAM that discharges the hypothesis `hcr` of `serve_meets_spec`
(`Props/C01Spec.lean`): no CR is followed by a byte other than LF (`CRonlyBeforeLF`, defined with the
other hypotheses in `Proofs/ConnHyps.lean`). The echoed texts (the version, the `Connection` value)
are cut out of lines the parser read with `read_until(LF)`; both are followed, in the stream, by the
CR of the line's own CRLF (`BeforeCR`), and neither contains an LF (`Request.WFParsed`), so a CR
inside either would be a CR followed by a non-LF byte. Only the head of each request (request line
and header lines) has to satisfy the condition (`HeadsClean`); bodies are unrestricted.
-/
namespace Humphrey.Http
open Humphrey Humphrey.Bytes Humphrey.IO

theorem CRalwaysBeforeLF.toOnly {s : Bytes} (h : CRalwaysBeforeLF s) : CRonlyBeforeLF s := by
  intro pre c post e
  obtain ⟨post', hp⟩ := h pre (c :: post) e
  simp only [List.cons.injEq] at hp
  exact hp.1

/-- Executable form of `CRonlyBeforeLF`. -/
def crOnlyBeforeLF : Bytes → Bool
  | a :: b :: rest => (a != 13 || b == 10) && crOnlyBeforeLF (b :: rest)
  | _ => true

theorem cleanStream_decidable (s : Bytes) : crOnlyBeforeLF s = true ↔ CRonlyBeforeLF s := by
  induction s with
  | nil =>
    simp only [crOnlyBeforeLF, true_iff]
    intro pre c post e
    simp at e
  | cons a t ih =>
    cases t with
    | nil =>
      simp only [crOnlyBeforeLF, true_iff]
      intro pre c post e
      have := congrArg List.length e
      simp at this
      omega
    | cons b rest =>
      simp only [crOnlyBeforeLF, Bool.and_eq_true, Bool.or_eq_true, bne_iff_ne, ne_eq, beq_iff_eq, ih]
      constructor
      · rintro ⟨h1, h2⟩ pre c post e
        cases pre with
        | nil =>
          simp only [List.nil_append, List.cons.injEq] at e
          obtain ⟨rfl, rfl, _⟩ := e
          rcases h1 with h1 | h1
          · exact absurd rfl h1
          · exact h1
        | cons p pre' =>
          simp only [List.cons_append, List.cons.injEq] at e
          exact h2 pre' c post e.2
      · intro h
        constructor
        · by_cases ha : a = 13
          · subst ha
            exact .inr (h [] b rest rfl)
          · exact .inl ha
        · intro pre c post e
          exact h (a :: pre) c post (by simp [e])

theorem CRonlyBeforeLF.to_infix {a m c : Bytes} (h : CRonlyBeforeLF (a ++ m ++ c)) : CRonlyBeforeLF m := by
  intro pre x post e
  exact h (a ++ pre) x (post ++ c) (by simp [e])

theorem CRonlyBeforeLF.to_suffix {s b : Bytes} (h : CRonlyBeforeLF s) (hb : b <:+ s) : CRonlyBeforeLF b := by
  obtain ⟨a, rfl⟩ := hb
  exact CRonlyBeforeLF.to_infix (a := a) (m := b) (c := []) (by simpa using h)

theorem CRonlyBeforeLF.to_prefix {a c : Bytes} (h : CRonlyBeforeLF (a ++ c)) : CRonlyBeforeLF a :=
  CRonlyBeforeLF.to_infix (a := []) (m := a) (c := c) (by simpa using h)

/-- The core step: a text without LF that is immediately followed by a CR, inside a clean string,
contains no CR (a CR inside it would be followed by a byte other than LF). -/
theorem BeforeCR.no_cr {s v : Bytes} (h : BeforeCR s v) (hlf : (10 : UInt8) ∉ v) (hc : CRonlyBeforeLF s) :
    ∀ b ∈ v, b ≠ 13 := by
  obtain ⟨a, c, rfl⟩ := h
  intro b hb e
  subst e
  obtain ⟨v1, v2, rfl⟩ := List.append_of_mem hb
  cases v2 with
  | nil => exact absurd (hc (a ++ v1) 13 c (by simp)) (by decide)
  | cons y v2' => exact hlf ((hc (a ++ v1) y (v2' ++ 13 :: c) (by simp)) ▸ by simp)

/-- **Only the head matters.** A request parsed from `b` occupies `head ++ body ++ b'` (`body` its
content, `b'` what the parser left); if no CR of `head` — the request line and header lines — is
followed by a non-LF byte, the request has no bare CR in the echoed texts, whatever the body holds. -/
theorem noBareCR_of_clean_head (env : Env) (b : Bytes) (req : Request) (b' head : Bytes)
    (hp : parseRequest flatSource env b = .ok (req, b'))
    (hb : b = head ++ req.content.getD [] ++ b') (hclean : CRonlyBeforeLF head) : NoBareCR req := by
  obtain ⟨head', hb', _, hv, hhs⟩ := parseRequest_flat_shape env b req b' hp
  obtain ⟨wf, -⟩ := parseRequest_flat_inv env b req b' hp
  have : head = head' := by
    rw [hb', List.append_assoc, List.append_assoc] at hb
    exact (List.append_cancel_right hb).symm
  subst this
  refine ⟨hv.no_cr (avoids_not_mem wf.version_chars (by simp [LF])) hclean, fun c hc => ?_⟩
  obtain ⟨hd, hm, rfl⟩ := get_some_mem hc
  exact (hhs hd hm).no_cr (avoids_not_mem (wf.value_chars hd hm) (by simp [LF])) hclean

theorem noBareCR_of_clean_bytes (env : Env) (b : Bytes) (req : Request) (b' : Bytes)
    (hb : CRonlyBeforeLF b) (hp : parseRequest flatSource env b = .ok (req, b')) : NoBareCR req := by
  obtain ⟨head, e, _⟩ := parseRequest_flat_shape env b req b' hp
  rw [e, List.append_assoc] at hb
  exact noBareCR_of_clean_head env b req b' head hp e hb.to_prefix

theorem headsClean_of_clean_stream (env : Env) (s0 : Bytes) (h : CRonlyBeforeLF s0) : HeadsClean env s0 := by
  intro b req b' head hbd _ hb
  have := h.to_suffix hbd.suffix
  rw [hb, List.append_assoc] at this
  exact this.to_prefix

end Humphrey.Http
