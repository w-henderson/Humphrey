import HumphreyModel.Proofs.Glob

/-!
C05: the two loops of `Model/Glob.lean` decide the glob relation. `matchNoStar` follows the rules of `Glob` one character
at a time; `matchStar` carries a bookmark, and its invariant (`matchStar_spec`) is stated with the literal run consumed
since the bookmark so that `glob_star_lits` applies when the bookmark moves or the text ends.
-/
namespace Humphrey.Glob

/-- Loop invariant of the post-`*` phase. `l` is the literal run consumed since the bookmark:
`ps = l ++ p` and `bt = l ++ t`. The loop answers "does the current attempt succeed, or does the
bookmarked `*` match when it takes at least one more character?". -/
theorem matchStar_spec (p t ps bt : List Char) (h : t.length ≤ bt.length)
    (l : List Char) (hl : ∀ c ∈ l, c ≠ '*') (hps : ps = l ++ p) (hbt : bt = l ++ t) :
    matchStar p t ps bt h = true ↔ Glob p t ∨ Glob ('*' :: ps) bt.tail := by
  fun_induction matchStar p t ps bt h generalizing l with
  | case1 p ps bt h _ =>
    -- text exhausted
    rw [← glob_nil_right]
    refine ⟨.inl, fun hg => hg.elim id fun hg => ?_⟩
    subst hps hbt
    obtain ⟨y, hy, hg⟩ := glob_star_lits hl (List.tail_suffix _) hg
    exact List.suffix_nil.mp hy ▸ hg
  | case2 ps bt c t' h p' _ ih =>
    -- new `*`: the bookmark moves here
    rw [ih [] (by simp) rfl rfl, ← glob_star_unfold]
    refine ⟨.inl, fun hg => hg.elim id fun hg => ?_⟩
    subst hps hbt
    obtain ⟨y, hy, hg⟩ := glob_star_lits hl (List.tail_suffix _) hg
    exact glob_star_of_suffix hy hg
  | case3 ps bt t' w p' hw h _ ih =>
    -- literal match: the run grows by `w`
    rw [ih (l ++ [w]) (by simpa [or_imp, forall_and] using ⟨hl, hw⟩) (by simp [hps]) (by simp [hbt]),
      glob_lit_cons hw]
    simp
  | case4 ps bt c t' h w p' hw hne _ ih =>
    -- mismatch: backtrack
    rw [ih [] (by simp) rfl rfl, ← glob_star_unfold, glob_lit_cons hw]
    simp [hne]
  | case5 ps bt c t' h _ ih =>
    -- pattern exhausted, text not: backtrack
    rw [ih [] (by simp) rfl rfl, ← glob_star_unfold, glob_nil_left]
    simp

theorem matchNoStar_spec (p t : List Char) : matchNoStar p t = true ↔ Glob p t := by
  fun_induction matchNoStar p t with
  | case1 p => exact glob_nil_right.symm
  | case2 c t => simp [glob_nil_left]
  | case3 p' c t' =>
    rw [matchStar_spec p' (c :: t') p' (c :: t') _ [] (by simp) rfl rfl]
    exact glob_star_unfold.symm
  | case4 p' w t' hw ih =>
    rw [ih, glob_lit_cons hw]; simp
  | case5 w p' c t' hw hne =>
    simp [glob_lit_cons hw, hne]

end Humphrey.Glob
