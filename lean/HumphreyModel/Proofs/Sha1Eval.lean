import HumphreyModel.Proofs.Sha1ChunkLoop

/-!
`sha1` in a form the kernel evaluates quickly, for the test vectors. `extend` pushes onto an array, which
the kernel sees as a list with nested appends: every read walks all of them. Here the schedule is a list
with the newest word first, so that a step is one cons and four reads near the head.
-/
namespace Humphrey.Sha1

def extendRev : Nat → List UInt32 → List UInt32
  | 0, ws => ws
  | k + 1, ws => extendRev k (rotl (ws[2]! ^^^ ws[7]! ^^^ ws[13]! ^^^ ws[15]!) 1 :: ws)

theorem getElem!_reverse (ws : Array UInt32) (j : Nat) (h : j < ws.size) :
    ws.toList.reverse[j]! = ws[ws.size - (j + 1)]! := by
  rw [List.getElem!_eq_getElem?_getD, List.getElem?_reverse (by simpa using h), Array.getElem!_eq_getD,
    Array.getD_eq_getD_getElem?, Array.getElem?_toList, Array.length_toList, Nat.sub_sub, Nat.add_comm 1 j]

theorem extend_toList (k : Nat) : ∀ ws : Array UInt32, 16 ≤ ws.size →
    (extend ws k).toList = (extendRev k ws.toList.reverse).reverse := by
  induction k with
  | zero => intro ws _; rw [extend, extendRev, List.reverse_reverse]
  | succ k ih =>
    intro ws h
    rw [extend, ih _ (by rw [Array.size_push]; omega), Array.toList_push, List.reverse_append, extendRev,
      getElem!_reverse ws 2 (by omega), getElem!_reverse ws 7 (by omega), getElem!_reverse ws 13 (by omega),
      getElem!_reverse ws 15 (by omega)]
    rfl

def compressFast (h : State) (block : Bytes) : State :=
  let s := rounds (extendRev 64 (wordsOfBytes block).reverse).reverse 0 h
  { a := h.a + s.a, b := h.b + s.b, c := h.c + s.c, d := h.d + s.d, e := h.e + s.e }

theorem compress_eq_fast (h : State) (block : Bytes) (hb : block.length = 64) :
    compress h block = compressFast h block := by
  unfold compress compressFast schedule
  rw [extend_toList 64 _ (by simp [wordsOfBytes_length, hb])]

def processChunksFast : Nat → Bytes → State → State
  | 0, _, h => h
  | k + 1, msg, h => processChunksFast k (msg.drop 64) (compressFast h (msg.take 64))

theorem processChunks_eq_fast : ∀ (k : Nat) (msg : Bytes) (h : State), msg.length = 64 * k →
    processChunks k msg h = processChunksFast k msg h := by
  intro k
  induction k with
  | zero => intro _ _ _; rfl
  | succ k ih =>
    intro msg h hl
    rw [processChunks, processChunksFast, compress_eq_fast _ _ (by rw [List.length_take]; omega),
      ih _ _ (by rw [List.length_drop]; omega)]

def sha1Fast (m : Bytes) : Bytes :=
  let h := processChunksFast (paddedLen m.length / 64) (pad m) init
  be32 h.a ++ be32 h.b ++ be32 h.c ++ be32 h.d ++ be32 h.e

theorem sha1_eq_fast (m : Bytes) : sha1 m = sha1Fast m := by
  simp only [sha1, sha1Fast, processChunks_eq_fast _ _ _ (pad_length_chunks m)]

/-! The vectors of RFC 3174 §7.3 (TEST1, TEST2) and the empty message. -/
theorem sha1_test1 : sha1 "abc".toUTF8.toList =
    [0xA9, 0x99, 0x3E, 0x36, 0x47, 0x06, 0x81, 0x6A, 0xBA, 0x3E, 0x25, 0x71, 0x78, 0x50, 0xC2, 0x6C, 0x9C, 0xD0,
     0xD8, 0x9D] := by rw [sha1_eq_fast]; decide +kernel
theorem sha1_test2 : sha1 "abcdbcdecdefdefgefghfghighijhijkijkljklmklmnlmnomnopnopq".toUTF8.toList =
    [0x84, 0x98, 0x3E, 0x44, 0x1C, 0x3B, 0xD2, 0x6E, 0xBA, 0xAE, 0x4A, 0xA1, 0xF9, 0x51, 0x29, 0xE5, 0xE5, 0x46,
     0x70, 0xF1] := by rw [sha1_eq_fast]; decide +kernel
theorem sha1_empty : sha1 [] =
    [0xDA, 0x39, 0xA3, 0xEE, 0x5E, 0x6B, 0x4B, 0x0D, 0x32, 0x55, 0xBF, 0xEF, 0x95, 0x60, 0x18, 0x90, 0xAF, 0xD8,
     0x07, 0x09] := by rw [sha1_eq_fast]; decide +kernel

end Humphrey.Sha1
