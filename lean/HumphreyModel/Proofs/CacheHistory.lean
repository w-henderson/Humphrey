import HumphreyModel.Proofs.Cache

/-!
Histories on the cache model: running one (`step`, `run`, `Reachable`), the two readings of the abstract
map, the inductive invariant `Inv` and its preservation, absence of panics along a history with a
non-decreasing clock.
-/
namespace Humphrey.Cache
open Humphrey.CacheSpec

/-- One operation of a history on the concrete cache. A lookup leaves the cache unchanged (`get` takes
`&self`) but may panic. -/
def step (c : Cache) : Op → Outcome Cache
  | .set t r h b m => set t c r h b m
  | .get t r h => match get t c r h with
    | .ok _ => .ok c
    | .panic => .panic

def run (c : Cache) : List Op → Outcome Cache
  | [] => .ok c
  | op :: ops => match step c op with
    | .ok c' => run c' ops
    | .panic => .panic

def Reachable (limit timeLimit : Nat) (ops : List Op) (c : Cache) : Prop :=
  run (empty limit timeLimit) ops = .ok c

theorem run_append (c : Cache) (ops₁ ops₂ : List Op) :
    run c (ops₁ ++ ops₂) = match run c ops₁ with
      | .ok c' => run c' ops₂
      | .panic => .panic := by
  induction ops₁ generalizing c with
  | nil => rfl
  | cons op ops₁ ih =>
    simp only [List.cons_append, run]
    cases step c op with
    | ok c₁ => exact ih c₁
    | panic => rfl

theorem absRun_snoc (hist : List Op) (op : Op) : absRun (hist ++ [op]) = absStep (absRun hist) op := by
  simp [absRun, List.foldl_append]

theorem absStep_apply (m : AbsMap) (op : Op) (k : Key) : absStep m op k = (storesAt k op).or (m k) := by
  cases op with
  | set t r h b mi =>
    simp only [absStep, storesAt, eq_comm (a := k)]
    split <;> rfl
  | get t r h => rfl

/-- The fold "a store overwrites its key" started from `m` answers the most recent store for the key in
the history, else what `m` held. -/
theorem foldl_absStep (ops : List Op) (m : AbsMap) (k : Key) :
    ops.foldl absStep m k = (lastSet ops k).or (m k) := by
  induction ops generalizing m with
  | nil => rfl
  | cons op ops ih =>
    rw [List.foldl_cons, ih, absStep_apply, ← Option.or_assoc]
    simp [lastSet, List.findSome?_append]

theorem absRun_time_mem {ops : List Op} {k : Key} {b : List UInt8} {mi t : Nat}
    (h : absRun ops k = some (b, mi, t)) : ∃ op ∈ ops, op.time = t := by
  have h : lastSet ops k = some (b, mi, t) := by simpa [absRun, foldl_absStep, absEmpty] using h
  obtain ⟨op, hop, hs⟩ := List.exists_of_findSome?_eq_some h
  refine ⟨op, List.mem_reverse.mp hop, ?_⟩
  cases op with
  | set t' r h' b' mi' =>
    simp only [storesAt] at hs
    split at hs
    · cases hs; rfl
    · cases hs
  | get t' r h' => cases hs

/-- Inductive invariant of a cache built with the given limits, after the history `hist`. -/
structure Inv (limit timeLimit : Nat) (hist : List Op) (c : Cache) : Prop where
  limit_eq : c.limit = limit
  timeLimit_eq : c.timeLimit = timeLimit
  size_eq : c.size = totalLen c.data
  bound : c.size ≤ limit
  unique : UniqueKeys c.data
  /-- every stored entry is the last store for its key -/
  latest : ∀ it ∈ c.data, absRun hist (key it) = some (val it)

variable {limit timeLimit : Nat} {hist : List Op} {c : Cache}

theorem inv_empty (limit timeLimit : Nat) : Inv limit timeLimit [] (empty limit timeLimit) :=
  ⟨rfl, rfl, rfl, Nat.zero_le _, List.Pairwise.nil, nofun⟩

theorem inv_set {t : Nat} {c' : Cache} {r : String} {h : Nat} {b : List UInt8} {m : Nat}
    (hi : Inv limit timeLimit hist c) (hs : set t c r h b m = .ok c') :
    Inv limit timeLimit (hist ++ [.set t r h b m]) c' := by
  rcases set_spec t r h b m hi.size_eq hi.unique with ⟨_, hp⟩ | ⟨kept, hsub, hnk, hle, he⟩
  · rw [hp] at hs; cases hs
  · rw [he] at hs; cases hs
    refine ⟨hi.limit_eq, hi.timeLimit_eq, by simp [totalLen_append, totalLen], hi.limit_eq ▸ hle,
      uniqueKeys_snoc (hi.unique.sublist hsub) hnk, fun it hit => ?_⟩
    rw [absRun_snoc]
    rcases List.mem_append.mp hit with hit | hit
    · simp only [absStep, hnk it hit, if_false, hi.latest it (hsub.subset hit)]
    · cases List.mem_singleton.mp hit
      simp [absStep, key, val]

theorem inv_step {c' : Cache} {op : Op} (hi : Inv limit timeLimit hist c) (hs : step c op = .ok c') :
    Inv limit timeLimit (hist ++ [op]) c' := by
  cases op with
  | set t r h b m => exact inv_set hi hs
  | get t r h =>
    simp only [step] at hs
    split at hs
    · cases hs
      exact { hi with latest := fun it hit => by rw [absRun_snoc]; exact hi.latest it hit }
    · cases hs

theorem inv_run {ops : List Op} {c' : Cache} (hi : Inv limit timeLimit hist c) (hr : run c ops = .ok c') :
    Inv limit timeLimit (hist ++ ops) c' := by
  induction ops generalizing hist c with
  | nil => cases hr; simpa using hi
  | cons op ops ih =>
    simp only [run] at hr
    split at hr
    · next c₁ hstep => simpa using ih (inv_step hi hstep) hr
    · cases hr

theorem inv_reachable {ops : List Op} (hr : Reachable limit timeLimit ops c) : Inv limit timeLimit ops c := by
  simpa using inv_run (inv_empty limit timeLimit) hr

theorem stored_time_mem (hi : Inv limit timeLimit hist c) {it : Item} (hit : it ∈ c.data) :
    ∃ op ∈ hist, op.time = it.time :=
  absRun_time_mem (hi.latest it hit)

theorem set_no_panic (hi : Inv limit timeLimit hist c) (t : Nat) (r : String) (h : Nat)
    {b : List UInt8} (m : Nat) (hsize : b.length ≤ limit) : ∃ c', set t c r h b m = .ok c' := by
  rcases set_spec t r h b m hi.size_eq hi.unique with ⟨hl, _⟩ | ⟨_, _, _, _, he⟩
  · rw [hi.limit_eq] at hl; omega
  · exact ⟨_, he⟩

theorem step_no_panic {op : Op} (hi : Inv limit timeLimit hist c)
    (hsize : op.storeLen ≤ limit) (ht : ∀ it ∈ c.data, it.time ≤ op.time) :
    ∃ c', step c op = .ok c' := by
  cases op with
  | set t r h b m => exact set_no_panic hi t r h m hsize
  | get t r h =>
    simp only [step]
    cases hg : get t c r h with
    | ok o => exact ⟨c, rfl⟩
    | panic => exact absurd hg (get_no_panic ht)

/-- The stored times come from `hist`, so a clock that is monotone over `hist ++ ops` keeps every lookup
of `ops` at or after what it finds. -/
theorem run_no_panic {ops : List Op} (hi : Inv limit timeLimit hist c) (hsize : SizesWithin limit ops)
    (hclock : ClockMonotone (hist ++ ops)) : ∃ c', run c ops = .ok c' := by
  induction ops generalizing hist c with
  | nil => exact ⟨c, rfl⟩
  | cons op ops ih =>
    obtain ⟨c₁, hstep⟩ := step_no_panic hi (hsize op List.mem_cons_self) (fun it hit => by
      obtain ⟨o, ho, hto⟩ := stored_time_mem hi hit
      rw [ClockMonotone, List.map_append, List.pairwise_append] at hclock
      exact hto ▸ hclock.2.2 _ (List.mem_map_of_mem ho) _ (List.mem_map_of_mem List.mem_cons_self))
    simp only [run, hstep]
    exact ih (inv_step hi hstep) (fun o ho => hsize o (List.mem_cons_of_mem _ ho))
      (by simpa using hclock)

end Humphrey.Cache
