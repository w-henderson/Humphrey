import HumphreyModel.Proofs.JsonDecNum

/-!
For `decCodec_lawful`: the four shapes of text that `decShow` prints (`dec_show_cases`), that each is
an RFC 8259 number lexeme, and that `decParse` reads it back.
-/
namespace Humphrey.Json
open Humphrey.JsonSpec

theorem dec_show_cases (neg : Bool) (m : Nat) (e : Int) :
    (m = 0 ∧ 0 ≤ e ∧ decShow ⟨neg, m, e⟩ = dec_sign neg ++ ['0']) ∨
    (m ≠ 0 ∧ 0 ≤ e ∧ ∃ c r, natDigits m = c :: r ∧ Digit19 c ∧
      decShow ⟨neg, m, e⟩ = dec_sign neg ++ c :: (r ++ List.replicate e.toNat '0')) ∨
    (m ≠ 0 ∧ e < 0 ∧ ∃ c ip fp, natDigits m = c :: (ip ++ fp) ∧ Digit19 c ∧ fp.length = (-e).toNat ∧
      decShow ⟨neg, m, e⟩ = dec_sign neg ++ c :: (ip ++ '.' :: fp)) ∨
    (e < 0 ∧ (natDigits m).length ≤ (-e).toNat ∧
      decShow ⟨neg, m, e⟩ = dec_sign neg ++
        '0' :: ([] ++ '.' :: (List.replicate ((-e).toNat - (natDigits m).length) '0' ++ natDigits m))) := by
  have hsign : ∀ body : List Char, (if neg = true then '-' :: body else body) = dec_sign neg ++ body := by
    intro body; cases neg <;> rfl
  by_cases he : 0 ≤ e
  · by_cases hm : m = 0
    · subst hm
      refine Or.inl ⟨rfl, he, ?_⟩
      simp only [decShow, ge_iff_le, he, if_true, hsign, dec_natDigits_zero]
    · obtain ⟨c, r, hcr, hc⟩ := dec_natDigits_head (Nat.pos_of_ne_zero hm)
      refine Or.inr (Or.inl ⟨hm, he, c, r, hcr, hc, ?_⟩)
      simp only [decShow, ge_iff_le, he, if_true, hm, if_false, hsign, hcr, List.cons_append]
  · have he' : e < 0 := by omega
    by_cases hlen : (natDigits m).length > (-e).toNat
    · have hk : 1 ≤ (-e).toNat := by omega
      have hm : m ≠ 0 := by
        intro h; subst h; rw [dec_natDigits_zero] at hlen; simp at hlen; omega
      obtain ⟨c, r, hcr, hc⟩ := dec_natDigits_head (Nat.pos_of_ne_zero hm)
      refine Or.inr (Or.inr (Or.inl ⟨hm, he', c, r.take (r.length - (-e).toNat),
        r.drop (r.length - (-e).toNat), ?_, hc, ?_, ?_⟩))
      · rw [List.take_append_drop]; exact hcr
      · rw [hcr, List.length_cons] at hlen
        rw [List.length_drop]; omega
      · rw [hcr, List.length_cons] at hlen
        have e1 : (c :: r).length - (-e).toNat = (r.length - (-e).toNat) + 1 := by
          rw [List.length_cons]; omega
        simp only [decShow, ge_iff_le, he, if_false, hsign, hcr, gt_iff_lt]
        rw [if_pos (by rw [List.length_cons]; omega), e1, List.take_succ_cons, List.drop_succ_cons,
          List.cons_append]
    · refine Or.inr (Or.inr (Or.inr ⟨he', by omega, ?_⟩))
      simp only [decShow, ge_iff_le, he, if_false, hsign, hlen, List.nil_append]

theorem dec_optMinus (neg : Bool) : OptMinus (dec_sign neg) := by
  cases neg
  · exact .none
  · exact .minus

theorem dec_lexeme_int (neg : Bool) {i : List Char} (hi : IntPart i) : NumberLexeme (dec_sign neg ++ i) := by
  have := NumberLexeme.mk (dec_optMinus neg) hi .none .none
  simpa using this

theorem dec_lexeme_frac (neg : Bool) {i fp : List Char} (hi : IntPart i) (hfp : Digits1 fp) :
    NumberLexeme (dec_sign neg ++ (i ++ '.' :: fp)) := by
  have := NumberLexeme.mk (dec_optMinus neg) hi (.frac hfp) .none
  simpa using this

theorem dec_digits_tail {c : Char} {r : List Char} {m : Nat} (h : natDigits m = c :: r) :
    ∀ d ∈ r, Digit d := by
  intro d hd
  exact dec_natDigits_digits m d (by rw [h]; simp [hd])

theorem dec_digits_append {a b : List Char} (ha : ∀ d ∈ a, Digit d) (hb : ∀ d ∈ b, Digit d) :
    ∀ d ∈ a ++ b, Digit d := by
  intro d hd
  rcases List.mem_append.1 hd with h | h
  · exact ha d h
  · exact hb d h

/-- **`show_lexeme`, unconditionally**: whatever `decShow` prints is an RFC 8259 number lexeme. -/
theorem dec_show_lexeme (d : DecNum) : NumberLexeme (decShow d) := by
  obtain ⟨neg, m, e⟩ := d
  rcases dec_show_cases neg m e with ⟨_, _, hs⟩ | ⟨_, _, c, r, hcr, hc, hs⟩ |
    ⟨_, he, c, ip, fp, hcr, hc, hlen, hs⟩ | ⟨he, hlen, hs⟩
  · rw [hs]; exact dec_lexeme_int neg .zero
  · rw [hs]
    exact dec_lexeme_int neg (.nonzero hc (dec_digits_append (dec_digits_tail hcr) (dec_zeros_digits _)))
  · rw [hs]
    have htail := dec_digits_tail hcr
    have := dec_lexeme_frac neg (i := c :: ip) (fp := fp)
      (.nonzero hc (fun d hd => htail d (by simp [hd])))
      ⟨by intro h; rw [h] at hlen; simp at hlen; omega, fun d hd => htail d (by simp [hd])⟩
    simpa using this
  · rw [hs]
    have := dec_lexeme_frac neg (i := ['0'])
      (fp := List.replicate ((-e).toNat - (natDigits m).length) '0' ++ natDigits m) .zero
      ⟨by simp [natDigits], dec_digits_append (dec_zeros_digits _) (dec_natDigits_digits m)⟩
    simpa using this

theorem dec_digit_zero : Digit '0' := by unfold Digit; decide

/-- **`parse_show`**: `decParse` inverts `decShow` on normal forms. -/
theorem dec_parse_show (d : DecNum) (hd : DecFin d) : decParse (decShow d) = some d := by
  have hlex := (isNumberLexeme_iff _).2 (dec_show_lexeme d)
  obtain ⟨neg, m, e⟩ := d
  obtain ⟨hz, hnz⟩ := hd
  simp only at hz hnz
  rcases dec_show_cases neg m e with ⟨hm, _, hs⟩ | ⟨hm, he, c, r, hcr, hc, hs⟩ |
    ⟨hm, he, c, ip, fp, hcr, hc, hlen, hs⟩ | ⟨he, hlen, hs⟩
  · -- zero
    rw [hs] at hlex ⊢
    rw [dec_parse_int neg dec_digit_zero (by simp) hlex]
    have he := hz hm
    subst hm; subst he
    simp [DecNum.normalize, digitsVal]
  · -- integer with trailing zeros
    rw [hs] at hlex ⊢
    have htail := dec_digits_tail hcr
    rw [dec_parse_int neg (digit_of_digit19 hc) (dec_digits_append htail (dec_zeros_digits _)) hlex]
    have hv : digitsVal (c :: (r ++ List.replicate e.toNat '0')) = m * 10 ^ e.toNat := by
      rw [← List.cons_append, dec_digitsVal_append, ← hcr, dec_digitsVal_natDigits, dec_digitsVal_zeros,
        List.length_replicate, Nat.mul_comm]
      rfl
    rw [hv, dec_normalize_strip neg (hnz hm) e.toNat _ 0
      (by simp only [List.length_append, List.length_replicate]; omega)]
    exact congrArg (fun x => some (DecNum.mk neg m x)) (by omega)
  · -- digits with a decimal point inside
    rw [hs] at hlex ⊢
    have htail := dec_digits_tail hcr
    rw [dec_parse_frac neg (digit_of_digit19 hc) (fun d hd => htail d (by simp [hd]))
      (fun d hd => htail d (by simp [hd])) hlex]
    rw [← hcr, dec_digitsVal_natDigits, dec_normalize_id neg (hnz hm)]
    exact congrArg (fun x => some (DecNum.mk neg m x)) (by omega)
  · -- `0.000ddd`
    rw [hs] at hlex ⊢
    have hm : m ≠ 0 := by intro h; exact absurd (hz h) (by omega)
    rw [dec_parse_frac neg dec_digit_zero (by simp)
      (dec_digits_append (dec_zeros_digits _) (dec_natDigits_digits m)) hlex]
    have hv : digitsVal ('0' :: ([] ++ (List.replicate ((-e).toNat - (natDigits m).length) '0' ++ natDigits m))) = m := by
      have : '0' :: ([] ++ (List.replicate ((-e).toNat - (natDigits m).length) '0' ++ natDigits m)) =
          List.replicate ((-e).toNat - (natDigits m).length + 1) '0' ++ natDigits m := by
        simp [List.replicate_succ]
      rw [this, dec_digitsVal_append, dec_digitsVal_zeros, dec_digitsVal_natDigits]
      simp
    rw [hv, dec_normalize_id neg (hnz hm)]
    refine congrArg (fun x => some (DecNum.mk neg m x)) ?_
    simp only [List.length_append, List.length_replicate]
    omega

/-- Everything `decParse` returns is in normal form, so `DecFin` is exactly the range of `decParse`
(the other inclusion is `dec_parse_show`). -/
theorem dec_parse_fin {s : List Char} {d : DecNum} (h : decParse s = some d) : DecFin d := by
  unfold decParse at h
  split at h
  · simp at h
  · simp only [Option.some.injEq] at h
    subst h
    apply dec_normalize_fin
    rw [← List.length_append]
    apply dec_digitsVal_bound
    apply dec_digits_append
    · exact dec_mem_takeWhile_digit
    · intro c hc
      split at hc
      · split at hc
        · exact dec_mem_takeWhile_digit c hc
        · simp at hc
      · simp at hc

end Humphrey.Json
