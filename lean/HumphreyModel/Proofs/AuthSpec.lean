import HumphreyModel.Spec.Auth
/-!
Facts about the abstract specification alone (`Spec/Auth.lean`): equations for its finite-map operations,
which values a step records as drawn, and "a dead token stays dead".
-/
namespace Humphrey.Auth
set_option linter.unusedSectionVars false -- the sections' `DecidableEq` instances are not needed by every lemma

section
variable {U T P S : Type} [DecidableEq U] [DecidableEq T] [DecidableEq P]

namespace Spec
variable {a : State U T P}

theorem upd_self {K V : Type} [DecidableEq K] (f : K → Option V) (k : K) (v : Option V) : upd f k v k = v :=
  if_pos rfl

theorem upd_ne {K V : Type} [DecidableEq K] (f : K → Option V) {k k' : K} (v : Option V) (h : k' ≠ k) :
    upd f k v k' = f k' :=
  if_neg h

theorem upd_eq_iff {K V : Type} [DecidableEq K] {f : K → Option V} {k k' : K} {v w : Option V} :
    upd f k v k' = w ↔ (k' = k ∧ v = w) ∨ (k' ≠ k ∧ f k' = w) := by
  unfold upd
  by_cases h : k' = k <;> simp [h]

theorem upd_eq_self {K V : Type} [DecidableEq K] {f : K → Option V} {k : K} {v : Option V} (h : f k = v) :
    upd f k v = f := by
  funext k'
  unfold upd
  split
  · subst k'; exact h.symm
  · rfl

theorem upd_upd {K V : Type} [DecidableEq K] (f : K → Option V) (k : K) (w v : Option V) :
    upd (upd f k w) k v = upd f k v := by
  funext k'
  unfold upd
  split <;> rfl

theorem dropSessionsOf_eq_some {u u' : U} {t : T} {e : Nat} :
    dropSessionsOf a u t = some (u', e) ↔ a.sess t = some (u', e) ∧ u' ≠ u := by
  unfold dropSessionsOf
  cases a.sess t with
  | none => simp
  | some ue =>
    obtain ⟨u2, e2⟩ := ue
    by_cases h : u2 = u
    · simp [h]; intro h1 _; exact h1.symm
    · simp [h]; intro h1 _; subst h1; exact h

theorem dropSessionsOf_of_not_owner {u : U} {t : T} (h : ∀ e, a.sess t ≠ some (u, e)) :
    dropSessionsOf a u t = a.sess t :=
  Option.ext fun ⟨u', e⟩ => by
    rw [dropSessionsOf_eq_some]
    exact ⟨fun h' => h'.1, fun h' => ⟨h', fun hu => h e (hu ▸ h')⟩⟩

theorem live_eq_some {now : Nat} {t : T} {u : U} :
    live a now t = some u ↔ ∃ e, a.sess t = some (u, e) ∧ now < e := by
  unfold live
  cases a.sess t with
  | none => simp
  | some ue =>
    obtain ⟨u', e⟩ := ue
    by_cases h : now < e
    · simp [h]
      exact ⟨fun hu => ⟨e, ⟨hu, rfl⟩, h⟩, fun ⟨_, ⟨hu, _⟩, _⟩ => hu⟩
    · simp [h]
      exact fun _ => Nat.le_of_not_lt h

theorem live_eq_none {now : Nat} {t : T} :
    live a now t = none ↔ ∀ u e, a.sess t = some (u, e) → e ≤ now := by
  simp only [Option.eq_none_iff_forall_ne_some, ne_eq, live_eq_some, not_exists, not_and, Nat.not_lt]

/-- `issue` records the draw and, when it succeeds, replaces the user's tokens by the new one. -/
theorem issue_fst (a : State U T P) (u : U) (l : Nat) (t : T) (now : Nat) :
    (issue a u l t now).1 = { a with drawnToks := t :: a.drawnToks } ∨
    (issue a u l t now).1 =
      { a with drawnToks := t :: a.drawnToks, sess := upd (dropSessionsOf a u) t (some (u, now + l)) } := by
  unfold issue
  cases a.pw u with
  | none => exact .inl rfl
  | some _ =>
    simp only
    split
    · exact .inl rfl
    · split
      · exact .inr rfl
      · exact .inl rfl

theorem issue_drawn (a : State U T P) (u : U) (l : Nat) (t : T) (now : Nat) :
    (issue a u l t now).1.drawnUids = a.drawnUids ∧ (issue a u l t now).1.drawnToks = t :: a.drawnToks := by
  rcases issue_fst a u l t now with h | h
  · rw [h]; exact ⟨rfl, rfl⟩
  · rw [h]; exact ⟨rfl, rfl⟩

/-- The specification records exactly the values the operations draw. -/
theorem step_drawn (dl rl : Nat) (a : State U T P) (op : Op U T P S) (now : Nat) :
    (step dl rl a op now).1.drawnUids = drawU a.drawnUids op ∧
    (step dl rl a op now).1.drawnToks = drawT a.drawnToks op := by
  cases op with
  | createUser p s u | removeUser u =>
    simp only [step, drawU, drawT]
    split <;> exact ⟨rfl, rfl⟩
  | createSession u t => exact issue_drawn a u dl t now
  | createSessionWithLifetime u l t => exact issue_drawn a u l t now
  | refreshSession t =>
    simp only [step, drawU, drawT]
    split
    · exact ⟨rfl, rfl⟩
    · split <;> exact ⟨rfl, rfl⟩
  | verify | userExists | invalidateSession | invalidateUserSession | getUidByToken | authRoute =>
    exact ⟨rfl, rfl⟩

theorem mem_drawT {dt : List T} {t : T} (h : t ∈ dt) (op : Op U T P S) : t ∈ drawT dt op := by
  cases op with
  | createSession | createSessionWithLifetime => exact List.mem_cons_of_mem _ h
  | _ => exact h

theorem Fresh.tail {a : State U T P} {op : Op U T P S} {now : Nat} {rest : List (Op U T P S × Nat)}
    (hf : Fresh a.drawnUids a.drawnToks ((op, now) :: rest)) (dl rl : Nat) :
    Fresh (step dl rl a op now).1.drawnUids (step dl rl a op now).1.drawnToks rest := by
  rw [(step_drawn dl rl a op now).1, (step_drawn dl rl a op now).2]
  exact hf.2

end Spec

/-- A drawn token that is absent from the token map or expired at `now`. -/
def Dead (a : Spec.State U T P) (t : T) (now : Nat) : Prop :=
  t ∈ a.drawnToks ∧ ∀ u e, a.sess t = some (u, e) → e ≤ now

theorem Dead.later {a : Spec.State U T P} {t : T} {now now' : Nat} (hd : Dead a t now) (hle : now ≤ now') :
    Dead a t now' :=
  ⟨hd.1, fun u e h => Nat.le_trans (hd.2 u e h) hle⟩

theorem Dead.mono {a a' : Spec.State U T P} {t : T} {now : Nat} (hd : Dead a t now)
    (hT : ∀ t ∈ a.drawnToks, t ∈ a'.drawnToks) (hs : ∀ u e, a'.sess t = some (u, e) → a.sess t = some (u, e)) :
    Dead a' t now :=
  ⟨hT t hd.1, fun u e h => hd.2 u e (hs u e h)⟩

theorem dead_issue {a : Spec.State U T P} {t : T} {now : Nat} (hd : Dead a t now)
    (u : U) (l : Nat) (t' : T) (hf : t' ∉ a.drawnToks) : Dead (Spec.issue a u l t' now).1 t now := by
  have hne : t ≠ t' := fun h => hf (h ▸ hd.1)
  rcases Spec.issue_fst a u l t' now with h | h
  · rw [h]
    exact hd.mono (fun _ ht => List.mem_cons_of_mem _ ht) (fun _ _ h => h)
  · rw [h]
    exact hd.mono (fun _ ht => List.mem_cons_of_mem _ ht) fun _ _ h =>
      (Spec.dropSessionsOf_eq_some.mp ((Spec.upd_ne _ _ hne).symm.trans h)).1

/-- **A dead token stays dead**: no operation brings it back (`refresh_session` must refuse an expired
token for this — D24 — and `Fresh` excludes re-issuing the same token). -/
theorem dead_step {a : Spec.State U T P} {t : T} {now : Nat} (hd : Dead a t now)
    (dl rl : Nat) (op : Op U T P S) (hf : Spec.FreshOp a.drawnUids a.drawnToks op) :
    Dead (Spec.step dl rl a op now).1 t now := by
  have hdrop : ∀ u, Dead { a with sess := Spec.dropSessionsOf a u } t now := fun u =>
    hd.mono (fun _ h => h) (fun _ _ h => (Spec.dropSessionsOf_eq_some.mp h).1)
  cases op with
  | createUser p s u =>
    simp only [Spec.step]
    split <;> exact hd
  | removeUser u =>
    simp only [Spec.step]
    split
    · exact hd
    · exact hdrop u
  | createSession u t' => exact dead_issue hd u dl t' hf
  | createSessionWithLifetime u l t' => exact dead_issue hd u l t' hf
  | refreshSession t' =>
    simp only [Spec.step]
    split
    · exact hd
    · rename_i u1 hlive
      split
      · -- the refreshed token was live, so it is not the dead one
        have hne : t ≠ t' := fun h => by
          rw [← h, Spec.live_eq_none.mpr hd.2] at hlive
          cases hlive
        refine hd.mono (fun _ h => h) (fun u2 e2 h => ?_)
        exact (Spec.upd_ne _ _ hne).symm.trans h
      · exact hd
  | invalidateSession t' =>
    refine hd.mono (fun _ h => h) (fun u2 e2 h => ?_)
    rcases Spec.upd_eq_iff.mp h with ⟨_, h⟩ | ⟨_, h⟩
    · cases h
    · exact h
  | invalidateUserSession u => exact hdrop u
  | verify | userExists | getUidByToken | authRoute => exact hd

def Monotone (now : Nat) : List (Op U T P S × Nat) → Prop
  | [] => True
  | (_, n) :: rest => now ≤ n ∧ Monotone n rest

def lastClock (now : Nat) : List (Op U T P S × Nat) → Nat
  | [] => now
  | (_, n) :: rest => lastClock n rest

theorem dead_run (dl rl : Nat) : ∀ (ops : List (Op U T P S × Nat)) (a : Spec.State U T P) (t : T) (now : Nat),
    Dead a t now → Monotone now ops → Spec.Fresh a.drawnUids a.drawnToks ops →
    Dead (Spec.run dl rl a ops).1 t (lastClock now ops)
  | [], _, _, _, hd, _, _ => hd
  | (op, n) :: rest, _, t, _, hd, hm, hf =>
    dead_run dl rl rest _ t n (dead_step (hd.later hm.1) dl rl op hf.1) hm.2 (hf.tail dl rl)

end
end Humphrey.Auth
