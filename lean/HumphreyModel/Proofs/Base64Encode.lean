import HumphreyModel.Proofs.Base64
import HumphreyModel.Proofs.Base64Regroup

/-! The symbols the bit-level RFC 4648 encoder makes of one, two and three octets are those of the
model's encoder. -/
namespace Humphrey.Base64
open Spec

def symsOf (l : List Bool) : Bytes :=
  (sixes l).map (fun g => table.getD (bitsToNat g) 0)

theorem symsOf_sextet {v : Nat} (h : v < 64) (r : List Bool) :
    symsOf (bits 6 v ++ r) = sym v :: symsOf r := by
  rw [symsOf, sixes_append (length_bits ..), List.map_cons, bitsToNat_eq, bitsVal_bits, Nat.mod_eq_of_lt h,
    ← sym_eq_table, symsOf]

theorem symsOf_short {k : Nat} (n : Nat) (h0 : 0 < k) (h6 : k < 6) :
    symsOf (bits k n) = [sym (n % 2 ^ k * 2 ^ (6 - k))] := by
  rw [symsOf, sixes_short (by simpa) (by simpa)]
  simp [sym_eq_table]

/-- Symbols (before padding) of the bit-level encoder. -/
def specSyms (bs : Bytes) : Bytes := symsOf (bs.flatMap bitsOfByte)

theorem spec_encode_eq (bs : Bytes) :
    Spec.encode bs = specSyms bs ++ List.replicate ((4 - (specSyms bs).length % 4) % 4) Spec.pad := rfl

/-- Three octets, regrouped, are the four sextets of `groupIndices`: both sides are 24 bits long
and denote `a * 2^16 + b * 2^8 + c`. -/
theorem specSyms_group (a b c : UInt8) (rest : Bytes) :
    specSyms (a :: b :: c :: rest) =
      (groupIndices a.toNat b.toNat c.toNat).map sym ++ specSyms rest := by
  have ha := a.toNat_lt
  have hb := b.toNat_lt
  have hc := c.toNat_lt
  obtain ⟨h0, h1, h2, h3⟩ := groupIndices_lt ha hb hc
  have e : bitsOfByte a ++ (bitsOfByte b ++ bitsOfByte c) =
      bits 6 (a.toNat / 4) ++ (bits 6 (a.toNat % 4 * 16 + b.toNat / 16) ++
        (bits 6 (b.toNat % 16 * 4 + c.toNat / 64) ++ bits 6 (c.toNat % 64))) := by
    refine bitsVal_inj (by simp [bitsOfByte_eq]) ?_
    simp [bitsOfByte_eq]
    grind
  have e' := congrArg (· ++ rest.flatMap bitsOfByte) e
  simp only [List.append_assoc] at e'
  rw [specSyms, List.flatMap_cons, List.flatMap_cons, List.flatMap_cons, e', symsOf_sextet h0,
    symsOf_sextet h1, symsOf_sextet h2, symsOf_sextet h3]
  rfl

theorem specSyms_one (a : UInt8) :
    specSyms [a] = [sym (a.toNat / 4), sym (a.toNat % 4 * 16)] := by
  have ha := a.toNat_lt
  have e : bitsOfByte a = bits 6 (a.toNat / 4) ++ bits 2 a.toNat := by
    refine bitsVal_inj (by simp [bitsOfByte_eq]) ?_
    simp [bitsOfByte_eq]
    grind
  rw [specSyms, List.flatMap_cons, List.flatMap_nil, List.append_nil, e,
    symsOf_sextet (by omega), symsOf_short _ (by omega) (by omega)]

theorem specSyms_two (a b : UInt8) :
    specSyms [a, b] =
      [sym (a.toNat / 4), sym (a.toNat % 4 * 16 + b.toNat / 16), sym (b.toNat % 16 * 4)] := by
  have ha := a.toNat_lt
  have hb := b.toNat_lt
  have e : bitsOfByte a ++ bitsOfByte b =
      bits 6 (a.toNat / 4) ++ (bits 6 (a.toNat % 4 * 16 + b.toNat / 16) ++ bits 4 b.toNat) := by
    refine bitsVal_inj (by simp [bitsOfByte_eq]) ?_
    simp [bitsOfByte_eq]
    grind
  rw [specSyms, List.flatMap_cons, List.flatMap_cons, List.flatMap_nil, List.append_nil, e,
    symsOf_sextet (by omega), symsOf_sextet (by omega), symsOf_short _ (by omega) (by omega)]

end Humphrey.Base64
