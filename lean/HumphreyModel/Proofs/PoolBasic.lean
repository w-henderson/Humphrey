import HumphreyModel.Model.Pool

/-!
Helper material for C08: the step function as an inductive relation (one constructor per way a
label can fire; `Step.of_step` and `Step.to_step` say that it is the same thing), which labels are the caller's and
what only the caller changes, entries of a list by position, sums over the worker table, replay lemmas.
-/
namespace Humphrey.Pool

/-- `step` spelled out: one constructor per enabled case, with its preconditions as hypotheses. -/
inductive Step (c : Cfg) (s : State) : Label → State → Prop
  | start : s.life = .created → s.caller = .idle →
      Step c s .start { s with life := .started, workers := List.replicate c.n .idle, recov := .waiting }
  | submit : s.life = .started → s.caller = .idle →
      Step c s (.submit s.submitted.length)
        { s with queue := s.queue ++ [.task s.submitted.length], submitted := s.submitted ++ [s.submitted.length] }
  | stop : s.life = .started → s.caller = .idle →
      Step c s .stop { s with life := .stopped, queue := s.queue ++ [.shutdown] }
  | reqLock {w} : s.workers[w]? = some .idle → Step c s (.reqLock w) (setW s w .waitingLock)
  | lock {w} : s.workers[w]? = some .waitingLock → s.rxLock = none →
      Step c s (.lock w) { setW s w .inRecv with rxLock := some w }
  | recvMsg {w m q} : s.workers[w]? = some .inRecv → s.queue = m :: q →
      Step c s (.recv w) { setW s w (.got (some m)) with queue := q, dequeued := s.dequeued ++ taskOf m }
  | recvErr {w} : s.workers[w]? = some .inRecv → s.queue = [] → s.senderAlive = false →
      Step c s (.recv w) (setW s w (.got none))
  | unlock {w r} : s.workers[w]? = some (.got r) → s.rxLock = some w →
      Step c s (.unlock w) { setW s w (.ready r) with rxLock := none }
  | run {w k} : s.workers[w]? = some (.ready (some (.task k))) →
      Step c s (.run w) { setW s w (.running k) with started := s.started ++ [k] }
  | exitErr {w} : s.workers[w]? = some (.ready none) → Step c s (.exit w) (setW s w .exited)
  | exitShutdown {w} : s.workers[w]? = some (.ready (some .shutdown)) → Step c s (.exit w) (setW s w .exited)
  | finish {w k} : s.workers[w]? = some (.running k) → c.panics k = false →
      Step c s (.finish w) { setW s w .idle with finished := s.finished ++ [k] }
  | panic {w k} : s.workers[w]? = some (.running k) → c.panics k = true →
      Step c s (.panic w) { setW s w .unwinding with panicked := s.panicked ++ [k] }
  | markerSend {w} : s.workers[w]? = some .unwinding →
      Step c s (.markerSend w) { setW s w .dead with recChan := s.recChan ++ [w] }
  | recRecv {w} : s.recov = .waiting → w ∈ s.recChan →
      Step c s (.recRecv w) { s with recov := .joining w, recChan := s.recChan.erase w }
  | recJoin {w} : s.recov = .joining w → s.workers[w]? = some .dead →
      Step c s .recJoin { s with recov := .respawning w }
  | recRespawn {w} : s.recov = .respawning w → s.workers[w]? = some .dead →
      Step c s .recRespawn { setW s w .idle with recov := .waiting }
  | dropBegin : s.caller = .idle → s.life ≠ .dropped → Step c s .dropBegin { s with caller := .dropRec }
  | dropDetachRecovery : s.caller = .dropRec → Step c s .dropDetachRecovery (afterRecoveryHandle s)
  | dropDetach : s.caller = .dropThreads → s.recov = .waiting → Step c s .dropDetach { s with caller := .dropTx }
  | dropSender : s.caller = .dropTx →
      Step c s .dropSender { s with caller := .done, life := .dropped, senderAlive := false }

theorem of_ite_some {α : Type} {p : Prop} [Decidable p] {a b : α} (h : (if p then some a else none) = some b) :
    p ∧ a = b := by
  split at h
  · exact ⟨‹p›, Option.some.inj h⟩
  · cases h

theorem Step.of_step {c : Cfg} {s s' : State} {l : Label} (h : step c s l = some s') : Step c s l s' := by
  -- the labels go by the shape of their case in `step`: one `if` (with one, two or three conjuncts), a `match` on the
  -- worker's phase or on `recov` around an `if`, and the cases with two ways to fire (`recv`, `exit`)
  cases l <;> simp only [step] at h
  case start | stop | lock | recRecv | dropBegin | dropDetach =>
    obtain ⟨⟨h1, h2⟩, rfl⟩ := of_ite_some h; constructor <;> assumption
  case submit => obtain ⟨⟨h1, h2, rfl⟩, rfl⟩ := of_ite_some h; exact .submit h1 h2
  case reqLock | markerSend | dropDetachRecovery | dropSender =>
    obtain ⟨h1, rfl⟩ := of_ite_some h; constructor; assumption
  case unlock | panic | recJoin | recRespawn =>
    split at h
    · obtain ⟨h1, rfl⟩ := of_ite_some h; constructor <;> assumption
    · cases h
  case recv =>
    split at h
    · split at h
      · cases h; exact .recvMsg ‹_› ‹_›
      · split at h
        · cases h
        · cases h; exact .recvErr ‹_› ‹_› (Bool.eq_false_iff.mpr ‹_›)
    · cases h
  case finish =>
    split at h
    · split at h
      · cases h
      · cases h; exact .finish ‹_› (Bool.eq_false_iff.mpr ‹_›)
    · cases h
  case run =>
    split at h
    · cases h; exact .run ‹_›
    · cases h
  case exit =>
    split at h
    · cases h; exact .exitErr ‹_›
    · cases h; exact .exitShutdown ‹_›
    · cases h
  case dropJoinRecovery => cases h

theorem Step.to_step {c : Cfg} {s s' : State} {l : Label} (st : Step c s l s') : step c s l = some s' := by
  cases st <;> simp [step, *]

theorem Step.isSome {c : Cfg} {s s' : State} {l : Label} (st : Step c s l s') : (step c s l).isSome = true := by
  rw [st.to_step]; rfl

/-- Where the caller's program counter has to be for a label of the caller to fire; `none` for the labels of the
workers and of the recovery thread. -/
def Label.callerAt : Label → Option Caller
  | .start | .submit _ | .stop | .dropBegin => some .idle
  | .dropJoinRecovery | .dropDetachRecovery => some .dropRec
  | .dropDetach => some .dropThreads
  | .dropSender => some .dropTx
  | _ => none

/-- The caller's variables (`life`, `caller`, `senderAlive`) belong to the caller: its own steps fire only at their
place in its program … -/
theorem Step.caller_of_callerAt {c : Cfg} {s s' : State} {l : Label} {pc : Caller} (st : Step c s l s')
    (hl : l.callerAt = some pc) : s.caller = pc := by
  cases st <;> cases hl <;> assumption

/-- … and no other thread's step touches them. -/
theorem Step.caller_frame {c : Cfg} {s s' : State} {l : Label} (st : Step c s l s') (hl : l.callerAt = none) :
    s'.life = s.life ∧ s'.caller = s.caller ∧ s'.senderAlive = s.senderAlive := by
  cases st <;> first | exact ⟨rfl, rfl, rfl⟩ | cases hl

theorem lt_of_getElem?_some {α : Type} {l : List α} {i : Nat} {a : α} (h : l[i]? = some a) : i < l.length :=
  (List.getElem?_eq_some_iff.mp h).1

theorem getElem?_set_of_some {α : Type} {l : List α} {i j : Nat} {a b : α} (h : l[i]? = some a) :
    (l.set i b)[j]? = if i = j then some b else l[j]? := by
  simp [List.getElem?_set, lt_of_getElem?_some h]

theorem getElem?_set_cases {α : Type} {l : List α} {i j : Nat} {b x : α} (h : (l.set i b)[j]? = some x) :
    (i = j ∧ x = b) ∨ (i ≠ j ∧ l[j]? = some x) := by
  rw [List.getElem?_set] at h
  split at h
  · split at h
    · exact .inl ⟨‹_›, (Option.some.inj h).symm⟩
    · cases h
  · exact .inr ⟨‹_›, h⟩

theorem getElem?_snoc_some {α : Type} {l : List α} {a x : α} {i : Nat} (h : (l ++ [a])[i]? = some x) :
    l[i]? = some x ∨ (i = l.length ∧ x = a) := by
  rcases Nat.lt_trichotomy i l.length with hi | hi | hi
  · exact .inl (List.getElem?_append_left hi ▸ h)
  · subst hi; rw [List.getElem?_concat_length] at h; exact .inr ⟨rfl, (Option.some.inj h).symm⟩
  · rw [List.getElem?_eq_none (by simp; omega)] at h; cases h

theorem set_getElem?_self {α : Type} {l : List α} {i : Nat} {a : α} (h : l[i]? = some a) : l.set i a = l := by
  obtain ⟨hi, rfl⟩ := List.getElem?_eq_some_iff.mp h; exact List.set_getElem_self hi

theorem eq_of_getElem?_replicate {α : Type} {n i : Nat} {a b : α} (h : (List.replicate n a)[i]? = some b) : b = a :=
  List.eq_of_mem_replicate (List.mem_of_getElem? h)

/-- The invariants speak of the entries of the worker table by position; the counting lemmas of `List` of its members. -/
theorem forall_mem_of_getElem? {α : Type} {l : List α} {P : α → Prop} (h : ∀ (i : Nat) (a : α), l[i]? = some a → P a) :
    ∀ a ∈ l, P a :=
  fun a ha => (List.mem_iff_getElem?.mp ha).elim fun i hi => h i a hi

def sumBy (g : Phase → Nat) : List Phase → Nat
  | [] => 0
  | p :: ps => g p + sumBy g ps

theorem sumBy_set {g : Phase → Nat} : ∀ {ws : List Phase} {w : Nat} {p : Phase} (q : Phase),
    ws[w]? = some p → sumBy g (ws.set w q) + g p = sumBy g ws + g q
  | [], _, _, _, h => nomatch h
  | x :: xs, 0, p, q, h => by
    cases Option.some.inj h
    show g q + sumBy g xs + g x = g x + sumBy g xs + g q; omega
  | x :: xs, w + 1, p, q, h => by
    have := sumBy_set (g := g) q (show xs[w]? = some p from h)
    show g x + sumBy g (xs.set w q) + g p = g x + sumBy g xs + g q; omega

theorem sumBy_replicate (g : Phase → Nat) (p : Phase) : ∀ n, sumBy g (List.replicate n p) = n * g p
  | 0 => by simp [sumBy]
  | n + 1 => by rw [List.replicate_succ, sumBy, sumBy_replicate g p n, Nat.add_mul, Nat.one_mul, Nat.add_comm]

theorem sumBy_le_sumBy {g g' : Phase → Nat} (h : ∀ p, g p ≤ g' p) : ∀ ws, sumBy g ws ≤ sumBy g' ws
  | [] => Nat.le_refl 0
  | p :: ps => Nat.add_le_add (h p) (sumBy_le_sumBy h ps)

theorem sumBy_le_length {g : Phase → Nat} (hg : ∀ p, g p ≤ 1) : ∀ ws, sumBy g ws ≤ ws.length
  | [] => Nat.le_refl 0
  | p :: ps => by have := hg p; have := sumBy_le_length hg ps; simp only [sumBy, List.length_cons]; omega

theorem le_sumBy {g : Phase → Nat} : ∀ {ws : List Phase} {w : Nat} {p : Phase}, ws[w]? = some p → g p ≤ sumBy g ws
  | [], _, _, h => nomatch h
  | x :: xs, 0, p, h => by cases Option.some.inj h; exact Nat.le_add_right _ _
  | x :: xs, w + 1, p, h => Nat.le_trans (le_sumBy (show xs[w]? = some p from h)) (Nat.le_add_left _ _)

theorem sumBy_eq_zero {g : Phase → Nat} : ∀ {ws : List Phase}, sumBy g ws = 0 →
    ∀ {w : Nat} {p : Phase}, ws[w]? = some p → g p = 0 :=
  fun h0 _ _ h => Nat.eq_zero_of_le_zero (h0 ▸ le_sumBy h)

theorem sumBy_zero_of_all {g : Phase → Nat} : ∀ {ws : List Phase},
    (∀ (w : Nat) (p : Phase), ws[w]? = some p → g p = 0) → sumBy g ws = 0
  | [], _ => rfl
  | x :: xs, h => by rw [sumBy, h 0 x rfl, sumBy_zero_of_all fun w p hw => h (w + 1) p hw]

theorem count_flatMap (f : Phase → List Nat) (k : Nat) : ∀ ws : List Phase,
    (ws.flatMap f).count k = sumBy (fun p => (f p).count k) ws
  | [] => rfl
  | p :: ps => by rw [List.flatMap_cons, List.count_append, sumBy, count_flatMap f k ps]

theorem runWith_append {f : State → Label → Option State} : ∀ (ls₁ ls₂ : List Label) (s : State),
    runWith f s (ls₁ ++ ls₂) = (runWith f s ls₁).bind (fun s' => runWith f s' ls₂)
  | [], ls₂, s => by simp [runWith]
  | l :: ls₁, ls₂, s => by
    simp only [List.cons_append, runWith]
    cases f s l with
    | none => simp
    | some s' => simp [runWith_append ls₁ ls₂ s']

theorem runWith_cons {f : State → Label → Option State} {s s' : State} {l : Label} {ls : List Label} :
    runWith f s (l :: ls) = some s' ↔ ∃ s₁, f s l = some s₁ ∧ runWith f s₁ ls = some s' := by
  rw [runWith]
  cases f s l <;> simp

theorem Step.run_cons {c : Cfg} {s s₁ s' : State} {l : Label} {ls : List Label} (st : Step c s l s₁)
    (h : Pool.run c s₁ ls = some s') : Pool.run c s (l :: ls) = some s' :=
  runWith_cons.mpr ⟨s₁, st.to_step, h⟩

theorem runWith_invariant {f : State → Label → Option State} {P : State → Prop}
    (hstep : ∀ s l s', P s → f s l = some s' → P s') : ∀ (ls : List Label) (s s' : State),
    P s → runWith f s ls = some s' → P s'
  | [], s, s', hs, h => by cases h; exact hs
  | l :: ls, s, s', hs, h =>
    let ⟨s₁, hl, h⟩ := runWith_cons.mp h
    runWith_invariant hstep ls s₁ s' (hstep s l s₁ hs hl) h

theorem Reachable.induct {c : Cfg} {P : State → Prop} (h0 : P init)
    (hstep : ∀ s l s', P s → step c s l = some s' → P s') {s : State} : Reachable c s → P s :=
  fun ⟨ls, hls⟩ => runWith_invariant hstep ls init s h0 hls

theorem Reachable.init (c : Cfg) : Reachable c init := ⟨[], rfl⟩

theorem Reachable.run {c : Cfg} {s s' : State} {ls : List Label} (hs : Reachable c s) (h : run c s ls = some s') :
    Reachable c s' := by
  obtain ⟨ls0, hls⟩ := hs
  refine ⟨ls0 ++ ls, ?_⟩
  rw [Pool.run, runWith_append, show runWith (Pool.step c) Pool.init ls0 = some s from hls]; exact h

theorem Reachable.step {c : Cfg} {s s' : State} {l : Label} (hs : Reachable c s) (h : step c s l = some s') :
    Reachable c s' :=
  hs.run (ls := [l]) (runWith_cons.mpr ⟨s', h, rfl⟩)

end Humphrey.Pool
