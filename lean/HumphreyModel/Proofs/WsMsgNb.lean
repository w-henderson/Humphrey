import HumphreyModel.Proofs.WsMsgRead

/-!
The two receive loops on ANY inbound script (not only client scripts). Both are iterations of one
body (`iter`: read a frame in blocking mode, act on it); the non-blocking loop differs only in the
header read that comes first while no data fragment has been collected. From that:
* the loops never run out of the fuel they are given, and more fuel changes nothing;
* whenever `recv_nonblocking` returns something other than "nothing yet", `recv` on the same
  connection returns the same thing and leaves the same connection;
* when it returns "nothing yet", nothing was lost: `recv` before and after give the same;
* "nothing yet" is returned only at a point where no byte is available, and only complete Ping/Pong
  frames were consumed before that point.
-/
namespace Humphrey.WsMsg
open Humphrey.WsFrame

/-- The header read of `from_stream_nonblocking` finds nothing only where no byte is available;
otherwise it does what a blocking `read_exact` of two bytes does. -/
theorem nbHeader_agrees (s : List Ev) :
    match nbHeader s with
    | .nothing s' => (s = [] ∧ s' = []) ∨ s = .notYet :: s' ∨ s = .data [] :: s'
    | .failed => readFrame s = .error .readError
    | .header h0 h1 s' => readExactEv 2 s = some ([h0, h1], s') := by
  match s with
  | [] => simp [nbHeader]
  | .notYet :: s => simp [nbHeader]
  | .data [] :: s => simp [nbHeader]
  | .data [a] :: s =>
    simp only [nbHeader]
    cases h : readExactEv 1 s with
    | none => simp [readFrame, decodeWith, readExactEv, h]
    | some p =>
      obtain ⟨bs, s'⟩ := p
      match bs with
      | [] => simp [readFrame, decodeWith, readExactEv, h]
      | [b] => simp [readExactEv, h]
      | b :: b2 :: r => simp [readFrame, decodeWith, readExactEv, h]
  | .data (a :: b :: rest) :: s =>
    cases rest with
    | nil => simp [nbHeader, readExactEv]
    | cons r rs => simp [nbHeader, readExactEv]

theorem readFrame_of_header {s s' : List Ev} {h0 h1 : UInt8}
    (h : readExactEv 2 s = some ([h0, h1], s')) :
    readFrame s = (innerWith readExactEv s' h0 h1).result := by
  simp [readFrame, decodeWith, h]

theorem nbHeader_nothing {s s' : List Ev} (h : nbHeader s = .nothing s') :
    (s = [] ∧ s' = []) ∨ s = .notYet :: s' ∨ s = .data [] :: s' := by
  have := nbHeader_agrees s
  rwa [h] at this

theorem onFrame_cases (c : Conn) (acc : List Frame) (f : Frame) :
    (f.opcode = .ping ∧
      onFrame c acc f = .next (c.write (encodeFrame (Frame.new .pong f.payload))) acc) ∨
    (f.opcode = .pong ∧ onFrame c acc f = .next { c with pongs := c.pongs + 1 } acc) ∨
    (f.opcode = .close ∧ onFrame c acc f
      = .done (.err .connectionClosed) (c.write (encodeFrame (Frame.new .close f.payload)))) ∨
    (f.opcode ≠ .ping ∧ f.opcode ≠ .pong ∧ f.opcode ≠ .close ∧
      onFrame c acc f = .next c (acc ++ [f])) := by
  unfold onFrame
  cases h : f.opcode <;> simp

/-- One iteration of either receive loop once it reads a frame in blocking mode; `cont f c frames`
is how the loop goes on after a frame `f` that did not end the call. -/
def iter (c : Conn) (acc : List Frame) (cont : Frame → Conn → List Frame → Result × Conn) :
    Result × Conn :=
  match readFrame c.inbound with
  | .error e => (.err (.ofWs e), { c with inbound := afterError c.inbound e })
  | .ok (f, s) =>
    match onFrame { c with inbound := s } acc f with
    | .done r c => (r, c)
    | .next c frames => cont f c frames

theorem iter_ok {c : Conn} {acc : List Frame} {f : Frame} {s : List Ev}
    (h : readFrame c.inbound = .ok (f, s)) (cont : Frame → Conn → List Frame → Result × Conn) :
    iter c acc cont = match onFrame { c with inbound := s } acc f with
      | .done r c => (r, c)
      | .next c frames => cont f c frames := by
  simp only [iter, h]

theorem recvLoop_succ (k : Nat) (c : Conn) (acc : List Frame) :
    recvLoop (k + 1) c acc
      = if wantMore acc then iter c acc (fun _ => recvLoop k) else (assemble acc, c) := rfl

theorem recvLoopNb_succ_false (k : Nat) (c : Conn) (acc : List Frame) :
    recvLoopNb (k + 1) c acc false
      = if wantMore acc then iter c acc (fun _ c a => recvLoopNb k c a false)
        else (assemble acc, c) := rfl

/-- While no data fragment has been collected: unless the header read finds nothing, the
non-blocking loop runs the same iteration, and stays non-blocking after a Ping or Pong. -/
theorem recvLoopNb_succ_true (k : Nat) (c : Conn) {acc : List Frame} (hwm : wantMore acc = true) :
    (∃ s, nbHeader c.inbound = .nothing s ∧
      recvLoopNb (k + 1) c acc true = (.none, { c with inbound := s })) ∨
    recvLoopNb (k + 1) c acc true
      = iter c acc (fun f c a => recvLoopNb k c a (f.opcode = .ping || f.opcode = .pong)) := by
  simp only [recvLoopNb, hwm, if_true]
  have hag := nbHeader_agrees c.inbound
  cases hnb : nbHeader c.inbound with
  | nothing s => exact .inl ⟨s, rfl, rfl⟩
  | failed =>
    rw [hnb] at hag
    simp [iter, hag, RecvErr.ofWs, afterError]
  | header h0 h1 s =>
    rw [hnb] at hag
    simp only [iter, readFrame_of_header hag]
    cases hin : (innerWith readExactEv s h0 h1).result with
    | error e => cases e <;> simp [afterError, hag]
    | ok p => exact .inr rfl

/-- A complete message has been collected: both loops return it. -/
theorem recvLoopNb_full (k : Nat) (c : Conn) {acc : List Frame} (b : Bool)
    (hwm : ¬ wantMore acc = true) : recvLoopNb (k + 1) c acc b = recvLoop (k + 1) c acc := by
  simp only [recvLoopNb, recvLoop, hwm, Bool.false_eq_true, if_false]

/-- The three ways an iteration can go: the read fails, the frame ends the call (a Close), or the
loop goes on with the rest of the script (a Ping or Pong leaving the collected fragments as they
are). -/
theorem iter_cases (c : Conn) (acc : List Frame) :
    (∃ e, readFrame c.inbound = .error e ∧
      ∀ cont, iter c acc cont = (.err (.ofWs e), { c with inbound := afterError c.inbound e })) ∨
    (∃ f s c1, readFrame c.inbound = .ok (f, s) ∧
      onFrame { c with inbound := s } acc f = .done (.err .connectionClosed) c1 ∧
      ∀ cont, iter c acc cont = (.err .connectionClosed, c1)) ∨
    (∃ f s c1 acc1, readFrame c.inbound = .ok (f, s) ∧
      onFrame { c with inbound := s } acc f = .next c1 acc1 ∧ c1.inbound = s ∧
      (f.opcode = .ping ∨ f.opcode = .pong → acc1 = acc) ∧
      ∀ cont, iter c acc cont = cont f c1 acc1) := by
  cases hrf : readFrame c.inbound with
  | error e => exact .inl ⟨e, rfl, fun _ => by simp only [iter, hrf]⟩
  | ok p =>
    obtain ⟨f, s⟩ := p
    have hi := iter_ok (acc := acc) hrf
    rcases onFrame_cases { c with inbound := s } acc f with ⟨_, e⟩ | ⟨_, e⟩ | ⟨_, e⟩ | ⟨h1, h2, _, e⟩ <;>
      simp only [e] at hi
    · exact .inr (.inr ⟨f, s, _, _, rfl, e, rfl, fun _ => rfl, hi⟩)
    · exact .inr (.inr ⟨f, s, _, _, rfl, e, rfl, fun _ => rfl, hi⟩)
    · exact .inr (.inl ⟨f, s, _, rfl, e, hi⟩)
    · exact .inr (.inr ⟨f, s, _, _, rfl, e, rfl, fun h => (h.elim h1 h2).elim, hi⟩)

/-- Once a data fragment has been collected the non-blocking loop is the blocking loop. -/
theorem recvLoopNb_notFirst (fuel : Nat) : ∀ (c : Conn) (acc : List Frame),
    recvLoopNb fuel c acc false = recvLoop fuel c acc := by
  induction fuel with
  | zero => intro c acc; rfl
  | succ k ih =>
    intro c acc
    have : (fun (_ : Frame) c a => recvLoopNb k c a false) = fun _ => recvLoop k := by
      funext _ c a; exact ih c a
    rw [recvLoopNb_succ_false, recvLoop_succ, this]

theorem recvLoop_eq_of_nb_ne_none (fuel : Nat) : ∀ (c : Conn) (acc : List Frame) (isFirst : Bool),
    (recvLoopNb fuel c acc isFirst).1 ≠ .none →
    recvLoop fuel c acc = recvLoopNb fuel c acc isFirst := by
  induction fuel with
  | zero => intro c acc isFirst _; rfl
  | succ k ih =>
    intro c acc isFirst hr
    cases isFirst with
    | false => exact (recvLoopNb_notFirst _ c acc).symm
    | true =>
      by_cases hwm : wantMore acc = true
      · rcases recvLoopNb_succ_true k c hwm with ⟨s, _, e⟩ | e <;> rw [e] at hr ⊢
        · exact absurd rfl hr
        · rw [recvLoop_succ, if_pos hwm]
          rcases iter_cases c acc with ⟨e, _, hi⟩ | ⟨f, s, c1, _, _, hi⟩ | ⟨f, s, c1, acc1, _, _, _, _, hi⟩ <;>
            rw [hi] at hr <;> rw [hi, hi]
          exact ih _ _ _ hr
      · exact (recvLoopNb_full _ _ _ hwm).symm

theorem readExactEv_size (n : Nat) (s : List Ev) (bs : Bytes) (s' : List Ev)
    (h : readExactEv n s = some (bs, s')) : evSize s' + n ≤ evSize s := by
  fun_induction readExactEv n s generalizing bs s' with
  | case1 s => cases h; exact Nat.le_refl _
  | case2 | case4 | case5 => cases h
  | case3 n s ih => have := ih _ _ h; simp only [evSize]; omega
  | case6 n c cs _ _ b2 s2 hr ih => cases h; have := ih _ _ hr; simp only [evSize]; omega
  | case7 n c cs _ _ => cases h; simp only [evSize, List.length_drop]; omega

theorem readFrame_size {s s' : List Ev} {f : Frame} (h : readFrame s = .ok (f, s')) :
    evSize s' + 2 ≤ evSize s := by
  have := decodeWith_measure readExactEv_size h
  omega

theorem recvLoop_fuel (k1 : Nat) : ∀ (k2 : Nat) (c : Conn) (acc : List Frame),
    evSize c.inbound + 2 ≤ k1 → evSize c.inbound + 2 ≤ k2 →
    recvLoop k1 c acc = recvLoop k2 c acc := by
  induction k1 with
  | zero => intro k2 c acc h; omega
  | succ j ih =>
    intro k2 c acc h1 h2
    obtain ⟨m, rfl⟩ : ∃ m, k2 = m + 1 := ⟨k2 - 1, by omega⟩
    rw [recvLoop_succ, recvLoop_succ]
    rcases iter_cases c acc with ⟨e, _, hi⟩ | ⟨f, s, c1, _, _, hi⟩ | ⟨f, s, c1, acc1, hrf, _, hin, _, hi⟩ <;>
      rw [hi, hi]
    have hs := readFrame_size hrf
    rw [ih m c1 acc1 (by rw [hin]; omega) (by rw [hin]; omega)]

/-- The blocking loop never answers "nothing yet", and never runs out of the fuel `recv` gives it. -/
theorem recvLoop_ne_none_ne_outOfFuel (k : Nat) : ∀ (c : Conn) (acc : List Frame),
    (recvLoop k c acc).1 ≠ .none ∧
    (evSize c.inbound + 2 ≤ k → (recvLoop k c acc).1 ≠ .outOfFuel) := by
  induction k with
  | zero => intro c acc; exact ⟨by simp [recvLoop], fun h => by omega⟩
  | succ j ih =>
    intro c acc
    rw [recvLoop_succ]
    split
    · rcases iter_cases c acc with ⟨e, _, hi⟩ | ⟨f, s, c1, _, _, hi⟩ | ⟨f, s, c1, acc1, hrf, _, hin, _, hi⟩ <;>
        rw [hi]
      · simp
      · simp
      · have hs := readFrame_size hrf
        exact ⟨(ih c1 acc1).1, fun h => (ih c1 acc1).2 (by rw [hin]; omega)⟩
    · simp [assemble]

theorem recvLoop_ne_none (fuel : Nat) (c : Conn) (acc : List Frame) :
    (recvLoop fuel c acc).1 ≠ .none :=
  (recvLoop_ne_none_ne_outOfFuel fuel c acc).1

theorem readFrame_notYet (s : List Ev) : readFrame (.notYet :: s) = readFrame s := by
  simp [readFrame, decodeWith, readExactEv]

theorem recvLoop_notYet (k : Nat) (c : Conn) (s : List Ev) (acc : List Frame)
    (hwm : wantMore acc = true) :
    recvLoop (k + 1) { c with inbound := .notYet :: s } acc
      = recvLoop (k + 1) { c with inbound := s } acc := by
  simp only [recvLoop, hwm, if_true, readFrame_notYet]
  cases hrf : readFrame s with
  | error e => cases e <;> simp [afterError, readExactEv]
  | ok p => rfl

theorem readFrame_nonEmpty {s s' : List Ev} {f : Frame} (hne : NonEmptyData s)
    (h : readFrame s = .ok (f, s')) : NonEmptyData s' := by
  obtain ⟨_, ⟨e', h1, _⟩ | ⟨f', a, b, h1, _, hrel⟩⟩ := readFrame_flat ⟨hne, rfl⟩
  · unfold readFrame at h; rw [h1] at h; cases h
  · unfold readFrame at h; rw [h1] at h; cases h; exact hrel.1

theorem Conn.inbound_eta {c : Conn} {s : List Ev} (h : c.inbound = s) : { c with inbound := s } = c := by
  subst h; rfl

/-- How a non-blocking call comes to answer "nothing yet": the header read found nothing, or a
complete Ping or Pong was read (and answered) and the call went on, still non-blocking and with the
fragments collected so far, to answer "nothing yet" later. -/
theorem recvLoopNb_none_inv {k : Nat} {c c' : Conn} {acc : List Frame}
    (h : recvLoopNb (k + 1) c acc true = (.none, c')) :
    wantMore acc = true ∧
    ((∃ s, nbHeader c.inbound = .nothing s ∧ c' = { c with inbound := s }) ∨
     ∃ f s c1, readFrame c.inbound = .ok (f, s) ∧ (f.opcode = .ping ∨ f.opcode = .pong) ∧
       onFrame { c with inbound := s } acc f = .next c1 acc ∧ c1.inbound = s ∧
       recvLoopNb k c1 acc true = (.none, c')) := by
  by_cases hwm : wantMore acc = true
  · refine ⟨hwm, ?_⟩
    rcases recvLoopNb_succ_true k c hwm with ⟨s, hnb, e⟩ | e <;> rw [e] at h
    · cases h; exact .inl ⟨s, hnb, rfl⟩
    · rcases iter_cases c acc with ⟨e, _, hi⟩ | ⟨f, s, c1, _, _, hi⟩ | ⟨f, s, c1, acc1, hrf, hon, hin, hacc, hi⟩ <;>
        rw [hi] at h
      · cases h
      · cases h
      · right
        cases hflag : (decide (f.opcode = .ping) || decide (f.opcode = .pong)) with
        | true =>
          -- a Ping or Pong leaves the collected fragments as they are
          have hctl : f.opcode = .ping ∨ f.opcode = .pong := by simpa using hflag
          cases hacc hctl
          rw [hflag] at h
          exact ⟨f, s, c1, hrf, hctl, hon, hin, h⟩
        | false =>
          rw [hflag, recvLoopNb_notFirst] at h
          exact absurd (congrArg Prod.fst h) (recvLoop_ne_none _ _ _)
  · rw [recvLoopNb_full _ _ _ hwm] at h
    exact absurd (congrArg Prod.fst h) (recvLoop_ne_none _ _ _)

theorem recvLoop_eq_after_nb_none (k : Nat) : ∀ (c : Conn) (acc : List Frame) (c' : Conn),
    recvLoopNb k c acc true = (.none, c') → NonEmptyData c.inbound →
    evSize c.inbound + 2 ≤ k → recvLoop k c acc = recvLoop (fuelFor c') c' acc := by
  induction k with
  | zero => intro c acc c' _ _ hk; omega
  | succ j ih =>
    intro c acc c' h hne hk
    obtain ⟨hwm, ⟨s, hnb, rfl⟩ | ⟨f, s, c1, hrf, _, hon, hin, h⟩⟩ := recvLoopNb_none_inv h
    · rcases nbHeader_nothing hnb with ⟨h0, rfl⟩ | h0 | h0
      · rw [Conn.inbound_eta h0]
        exact recvLoop_fuel _ _ c acc hk (by unfold fuelFor; omega)
      · rw [← Conn.inbound_eta h0, recvLoop_notYet _ _ _ _ hwm]
        have hsz : evSize s + 2 ≤ j + 1 := by rw [h0] at hk; simp only [evSize] at hk; omega
        exact recvLoop_fuel _ _ _ acc hsz (by simp [fuelFor])
      · exact absurd rfl (hne [] (by rw [h0]; simp))
    · have hs := readFrame_size hrf
      rw [← ih c1 acc c' h (by rw [hin]; exact readFrame_nonEmpty hne hrf) (by rw [hin]; omega)]
      simp only [recvLoop, hwm, if_true, hrf, hon]

/-- `recv_nonblocking` answers "nothing yet" exactly when its loop does (nothing is noted then). -/
theorem recvNonblocking_none {c c' : Conn} (h : recvNonblocking c = (.none, c')) :
    recvLoopNb (fuelFor c) c [] true = (.none, c') := by
  unfold recvNonblocking noteClosed at h
  cases hl : recvLoopNb (fuelFor c) c [] true with
  | mk r0 c0 =>
    rw [hl] at h
    cases r0 <;> simp at h
    rw [h]

/-- No byte is available right now: the peer is gone, or this is a moment at which nothing has
arrived (a `read` returning 0 bytes counts as the former). -/
def NothingAvailable (s : List Ev) : Prop :=
  s = [] ∨ (∃ t, s = .notYet :: t) ∨ (∃ t, s = .data [] :: t)

/-- `NothingStarted s s'`: reading from `s`, zero or more COMPLETE Ping/Pong frames come first (a
frame that has started to arrive is always read to its end), and at the point reached after them no
byte is available; `s'` is the script after that point. (`here` spells `NothingAvailable s` out for the reader of
the property; it follows from the header read finding nothing, `nbHeader_nothing`.) -/
inductive NothingStarted : List Ev → List Ev → Prop
  | here {s s' : List Ev} : NothingAvailable s → nbHeader s = .nothing s' → NothingStarted s s'
  | control {s s1 s' : List Ev} {f : Frame} : readFrame s = .ok (f, s1) →
      (f.opcode = .ping ∨ f.opcode = .pong) → NothingStarted s1 s' → NothingStarted s s'

theorem recvLoopNb_nothingStarted (k : Nat) : ∀ (c : Conn) (acc : List Frame) (c' : Conn),
    recvLoopNb k c acc true = (.none, c') → NothingStarted c.inbound c'.inbound := by
  induction k with
  | zero => intro c acc c' h; cases h
  | succ j ih =>
    intro c acc c' h
    obtain ⟨_, ⟨s, hnb, rfl⟩ | ⟨f, s, c1, hrf, hctl, _, hin, h⟩⟩ := recvLoopNb_none_inv h
    · refine .here ?_ hnb
      rcases nbHeader_nothing hnb with ⟨h0, _⟩ | h0 | h0
      · exact .inl h0
      · exact .inr (.inl ⟨_, h0⟩)
      · exact .inr (.inr ⟨_, h0⟩)
    · exact .control hrf hctl (hin ▸ ih c1 acc c' h)

end Humphrey.WsMsg
