import HumphreyModel.Model.Shutdown
import HumphreyModel.Spec.Shutdown
import HumphreyModel.Proofs.PoolFinal

/-!
Helper material for C20: the step function of `Model/Shutdown.lean` as an inductive relation, what the
embedded pool steps do to the pool's lifecycle, the inductive invariant (what the accept thread knows at each of
its program points, and how caller and accept thread hang together), where every accepted connection is, the
view into `Spec/Shutdown.lean`.
-/
namespace Humphrey.Shutdown
open Humphrey

/-- `step` spelled out: one constructor per way a label can fire. -/
inductive Step (c : Cfg) (s : State) : Label → State → Prop
  | arrive {e} : s.listenerOpen = true → e ≠ .wake → Step c s (.arrive e) { s with backlog := s.backlog ++ [e] }
  | signal : s.signalSent = false → Step c s .signal { s with signalSent := true }
  | recvSignal : s.caller = .waitSignal → s.signalSent = true → Step c s .recvSignal { s with caller := .storeFlag }
  | storeFlag : s.caller = .storeFlag → Step c s .storeFlag { s with caller := .selfConnect, flag := true }
  | selfConnectOk : s.caller = .selfConnect → s.listenerOpen = true →
      Step c s .selfConnect { s with caller := .joinAccept, backlog := s.backlog ++ [.wake] }
  | selfConnectRefused : s.caller = .selfConnect → s.listenerOpen = false →
      Step c s .selfConnect { s with caller := .joinAccept, wakeRefused := true }
  | joinAccept : s.caller = .joinAccept → s.acc = .exited → Step c s .joinAccept { s with caller := .returned }
  | accept {e b} : s.acc = .accepting → s.backlog = e :: b →
      Step c s .accept { s with acc := .checkFlag e, backlog := b, accepted := s.accepted ++ [e] }
  | break {e} : s.acc = .checkFlag e → s.flag = true →
      Step c s (.checkFlag true) { s with acc := .poolStop, brokeOn := some e }
  | skipErr {e} : s.acc = .checkFlag e → s.flag = false → e = .err →
      Step c s (.checkFlag false) { s with acc := .accepting, notServed := s.notServed ++ [e] }
  | toCond {e} : s.acc = .checkFlag e → s.flag = false → e ≠ .err →
      Step c s (.checkFlag false) { s with acc := .condition e }
  | letIn {e} : s.acc = .condition e → c.condHangs e = false →
      Step c s (.cond true) { s with acc := .execute e, admitted := s.admitted ++ [e] }
  | deny {e} : s.acc = .condition e → c.condHangs e = false →
      Step c s (.cond false) { s with acc := .accepting, notServed := s.notServed ++ [e] }
  | execute {e p} : s.acc = .execute e → Pool.step c.pool s.pool (.submit s.pool.submitted.length) = some p →
      Step c s .execute { s with acc := .accepting, pool := p,
                                 dispatched := s.dispatched ++ [(e, s.pool.submitted.length)] }
  | poolStop {p} : s.acc = .poolStop → Pool.step c.pool s.pool .stop = some p →
      Step c s .poolStop { s with acc := .dropListener, pool := p, stopDone := true }
  | dropListener : s.acc = .dropListener →
      Step c s .dropListener { s with acc := .dropPool, listenerOpen := false, lostBacklog := s.backlog, backlog := [] }
  | poolDrop {l p} : s.acc = .dropPool → isDropLabel l = true → Pool.step c.pool s.pool l = some p →
      Step c s (.poolDrop l) { s with pool := p }
  | exit : s.acc = .dropPool → s.pool.caller = .done → Step c s .exit { s with acc := .exited }
  | worker {l p} : isOwnerLabel l = false → Pool.step c.pool s.pool l = some p →
      Step c s (.worker l) { s with pool := p }

theorem Step.of_step {c : Cfg} {s s' : State} {l : Label} (h : step c s l = some s') : Step c s l s' := by
  cases l <;> unfold step at h
  case arrive e => obtain ⟨⟨h1, h2⟩, rfl⟩ := Pool.of_ite_some h; exact .arrive h1 h2
  case signal => obtain ⟨h1, rfl⟩ := Pool.of_ite_some h; exact .signal h1
  case recvSignal => obtain ⟨⟨h1, h2⟩, rfl⟩ := Pool.of_ite_some h; exact .recvSignal h1 h2
  case storeFlag => obtain ⟨h1, rfl⟩ := Pool.of_ite_some h; exact .storeFlag h1
  case selfConnect =>
    simp at h
    obtain ⟨h1, h⟩ := h
    split at h <;> cases h
    · exact .selfConnectOk h1 ‹_›
    · exact .selfConnectRefused h1 (Bool.eq_false_iff.mpr ‹_›)
  case joinAccept => obtain ⟨⟨h1, h2⟩, rfl⟩ := Pool.of_ite_some h; exact .joinAccept h1 h2
  case accept => cases hb : s.backlog <;> simp [hb] at h; obtain ⟨h1, rfl⟩ := h; exact .accept h1 hb
  case checkFlag v =>
    cases ha : s.acc <;> simp [ha] at h
    obtain ⟨hv, h⟩ := h
    cases v <;> simp at h
    · split at h <;> cases h
      · exact .skipErr ha hv.symm ‹_›
      · exact .toCond ha hv.symm ‹_›
    · subst h; exact .break ha hv.symm
  case cond b =>
    cases ha : s.acc <;> simp [ha] at h
    obtain ⟨hh, h⟩ := h
    cases b <;> cases h
    · exact .deny ha hh
    · exact .letIn ha hh
  case execute =>
    cases ha : s.acc <;> simp [ha] at h
    cases hp : Pool.step c.pool s.pool (.submit s.pool.submitted.length) <;> simp [hp] at h
    subst h; exact .execute ha hp
  case poolStop =>
    cases hp : Pool.step c.pool s.pool .stop <;> simp [hp] at h
    obtain ⟨h1, rfl⟩ := h; exact .poolStop h1 hp
  case dropListener => obtain ⟨h1, rfl⟩ := Pool.of_ite_some h; exact .dropListener h1
  case poolDrop l =>
    cases hp : Pool.step c.pool s.pool l <;> simp [hp] at h
    obtain ⟨⟨h1, h2⟩, rfl⟩ := h; exact .poolDrop h1 h2 hp
  case exit => obtain ⟨⟨h1, h2⟩, rfl⟩ := Pool.of_ite_some h; exact .exit h1 h2
  case worker l =>
    cases hp : Pool.step c.pool s.pool l <;> simp [hp] at h
    obtain ⟨h1, rfl⟩ := h; exact .worker h1 hp

theorem run_append {c : Cfg} : ∀ (ls₁ ls₂ : List Label) (s : State),
    run c s (ls₁ ++ ls₂) = (run c s ls₁).bind (fun s' => run c s' ls₂)
  | [], ls₂, s => rfl
  | l :: ls₁, ls₂, s => by
    simp only [List.cons_append, run]
    cases step c s l with
    | none => rfl
    | some s' => exact run_append ls₁ ls₂ s'

theorem Reachable.init (c : Cfg) : Reachable c (init c) := ⟨[], rfl⟩

theorem Reachable.run {c : Cfg} {s s' : State} {ls : List Label} (hs : Reachable c s) (h : run c s ls = some s') :
    Reachable c s' := by
  obtain ⟨ls0, hls⟩ := hs
  exact ⟨ls0 ++ ls, by rw [run_append, hls]; exact h⟩

theorem Reachable.step {c : Cfg} {s s' : State} {l : Label} (hs : Reachable c s) (h : step c s l = some s') :
    Reachable c s' :=
  hs.run (ls := [l]) (by simp only [Shutdown.run, h])

theorem run_induction {c : Cfg} {s' : State} {motive : State → List Label → Prop} (nil : motive s' [])
    (cons : ∀ {s l s1 ls}, step c s l = some s1 → run c s1 ls = some s' → motive s1 ls → motive s (l :: ls)) :
    ∀ {ls s}, run c s ls = some s' → motive s ls
  | [], s, h => by cases h; exact nil
  | l :: ls, s, h => by
    simp only [run] at h
    split at h
    · rename_i s1 hl; exact cons hl h (run_induction nil cons h)
    · cases h

theorem Reachable.induct {c : Cfg} {P : State → Prop} (h0 : P (Shutdown.init c))
    (hstep : ∀ s l s', P s → Step c s l s' → P s') {s : State} : Reachable c s → P s
  | ⟨_, hls⟩ =>
    run_induction (motive := fun s _ => P s → P _) id (fun hl _ ih hs => ih (hstep _ _ _ hs (.of_step hl))) hls h0

theorem startedPool_reachable (c : Pool.Cfg) : Pool.Reachable c (startedPool c) :=
  ⟨[.start], by simp [Pool.run, Pool.runWith, Pool.step, Pool.init, startedPool]⟩

theorem owner_false_not_submit {l : Pool.Label} (h : isOwnerLabel l = false) : l.isSubmit = false := by
  cases l <;> first | rfl | cases h

theorem drop_not_submit {l : Pool.Label} (h : isDropLabel l = true) : l.isSubmit = false := by
  cases l <;> first | rfl | cases h

theorem submitted_eq {c : Pool.Cfg} {p p' : Pool.State} {l : Pool.Label} (h : Pool.step c p l = some p')
    (hl : l.isSubmit = false) : p'.submitted = p.submitted := by
  cases Pool.Step.of_step h <;> first | rfl | cases hl

theorem callerAt_of_not_owner {l : Pool.Label} (h : isOwnerLabel l = false) : l.callerAt = none := by
  cases l <;> first | rfl | cases h

/-- The accept thread will call `accept()` again before it reads the flag. -/
def Acc.willAccept : Acc → Bool
  | .accepting | .condition _ | .execute _ => true
  | _ => false

theorem Acc.inLoop_of_willAccept {a : Acc} (h : a.willAccept = true) : a.inLoop = true := by
  cases a <;> first | rfl | cases h

/-- What is known at each program point of the accept thread, which owns listener and pool. -/
def At (s : State) : Acc → Prop
  | .checkFlag e =>
    (s.listenerOpen = true ∧ s.pool.life = .started ∧ s.pool.caller = .idle ∧ s.brokeOn = none) ∧
      (e = .wake → s.flag = true)
  | .poolStop => s.flag = true ∧ s.pool.life = .started ∧ s.pool.caller = .idle
  | .dropListener => s.flag = true ∧ s.stopDone = true
  | .dropPool => s.flag = true ∧ s.listenerOpen = false ∧ s.stopDone = true
  | .exited => s.flag = true ∧ s.listenerOpen = false ∧ s.stopDone = true ∧ s.pool.caller = .done
  | _ => s.listenerOpen = true ∧ s.pool.life = .started ∧ s.pool.caller = .idle ∧ s.brokeOn = none

theorem At.inLoop {s : State} {a : Acc} (h : At s a) (ha : a.inLoop = true) :
    s.listenerOpen = true ∧ s.pool.life = .started ∧ s.pool.caller = .idle ∧ s.brokeOn = none := by
  cases a <;> first | exact h | exact h.1 | cases ha

theorem At.flag {s : State} {a : Acc} (h : At s a) (ha : a.inLoop = false) : s.flag = true := by
  cases a <;> first | exact h.1 | cases ha

/-- `At` looks at the flag only to see that it is set, and not at what the caller or the backlog are. -/
theorem At.congr {s s' : State} {a : Acc} (h : At s a) (hf : s.flag = true → s'.flag = true)
    (hl : s'.listenerOpen = s.listenerOpen) (hd : s'.stopDone = s.stopDone) (hb : s'.brokeOn = s.brokeOn)
    (hpl : s'.pool.life = s.pool.life) (hpc : s'.pool.caller = s.pool.caller) : At s' a := by
  cases a <;> simp only [At, hl, hd, hb, hpl, hpc] at h ⊢
  case checkFlag => exact ⟨h.1, fun he => hf (h.2 he)⟩
  case accepting | condition | execute => exact h
  all_goals exact ⟨hf h.1, h.2⟩

structure Inv (c : Cfg) (s : State) : Prop where
  pool : Pool.Reachable c.pool s.pool
  subm : s.dispatched.map Prod.snd = s.pool.submitted
  flag : s.flag = true ↔ (s.caller = .selfConnect ∨ s.caller = .joinAccept ∨ s.caller = .returned)
  sig : s.caller ≠ .waitSignal → s.signalSent = true
  acc : At s s.acc
  wakeFlag : Entry.wake ∈ s.backlog → s.flag = true
  /-- once the caller has connected, the accept thread cannot wait in `accept()` for ever -/
  wakeLive : s.caller = .joinAccept → s.acc.willAccept = true → Entry.wake ∈ s.backlog
  ret : s.caller = .returned → s.acc = .exited

theorem inv_init (c : Cfg) : Inv c (init c) :=
  ⟨startedPool_reachable c.pool, rfl, by simp [init], nofun, ⟨rfl, rfl, rfl, rfl⟩, nofun, nofun, nofun⟩

theorem inv_step {c : Cfg} {s s' : State} {l : Label} (h : Inv c s) (st : Step c s l s') : Inv c s' := by
  have hat := h.acc
  have hwl := h.wakeLive
  -- the accept thread's own steps start from a point other than `exited`
  have notRet {a : Acc} (ha : s.acc ≠ .exited) (hc : s.caller = .returned) : a = .exited := absurd (h.ret hc) ha
  have unset (hfl : s.flag = false) {P : Prop} (hc : s.caller = .joinAccept) : P :=
    absurd (h.flag.mpr (.inr (.inl hc))) (by simp [hfl])
  cases st with
  | arrive h1 h2 =>
    exact { h with
      wakeFlag := fun hm => (List.mem_append.mp hm).elim h.wakeFlag fun hm => absurd (List.mem_singleton.mp hm).symm h2
      wakeLive := fun hc ha => List.mem_append_left _ (hwl hc ha) }
  | signal h1 => exact { h with sig := fun _ => rfl }
  | recvSignal h1 h2 =>
    have hf := h.flag
    exact { h with flag := by simp [h1] at hf; simp [hf], sig := fun _ => h2, wakeLive := nofun, ret := nofun }
  | storeFlag h1 =>
    exact { h with
      flag := by simp, sig := fun _ => h.sig (by simp [h1]), acc := hat.congr (fun _ => rfl) rfl rfl rfl rfl rfl
      wakeFlag := fun _ => rfl, wakeLive := nofun, ret := nofun }
  | selfConnectOk h1 h2 =>
    have hfl : s.flag = true := h.flag.mpr (.inl h1)
    exact { h with
      flag := by simp [hfl], sig := fun _ => h.sig (by simp [h1]), wakeFlag := fun _ => hfl
      wakeLive := fun _ _ => List.mem_append_right _ (List.mem_singleton.mpr rfl), ret := nofun }
  | selfConnectRefused h1 h2 =>
    have hfl : s.flag = true := h.flag.mpr (.inl h1)
    refine { h with flag := by simp [hfl], sig := fun _ => h.sig (by simp [h1]), wakeLive := fun _ ha => ?_, ret := nofun }
    have := (hat.inLoop (Acc.inLoop_of_willAccept ha)).1
    simp [h2] at this
  | joinAccept h1 h2 =>
    have hfl : s.flag = true := h.flag.mpr (.inr (.inl h1))
    exact { h with flag := by simp [hfl], sig := fun _ => h.sig (by simp [h1]), wakeLive := nofun, ret := fun _ => h2 }
  | @accept e b h1 h2 =>
    rw [h1] at hat
    refine { h with
      acc := ⟨hat, fun he => h.wakeFlag ?_⟩, wakeFlag := fun hm => h.wakeFlag ?_, wakeLive := nofun
      ret := notRet (by rw [h1]; nofun) }
    · simp [h2, he]
    · simp [h2, hm]
  | @«break» e h1 h2 =>
    rw [h1] at hat
    exact { h with acc := ⟨h2, hat.1.2.1, hat.1.2.2.1⟩, wakeLive := nofun, ret := notRet (by rw [h1]; nofun) }
  | @skipErr e h1 h2 h3 =>
    rw [h1] at hat
    exact { h with acc := hat.1, wakeLive := unset h2, ret := notRet (by rw [h1]; nofun) }
  | @toCond e h1 h2 h3 =>
    rw [h1] at hat
    exact { h with acc := hat.1, wakeLive := unset h2, ret := notRet (by rw [h1]; nofun) }
  | @letIn e h1 h2 =>
    rw [h1] at hat hwl
    exact { h with acc := hat, wakeLive := fun hc _ => hwl hc rfl, ret := notRet (by rw [h1]; nofun) }
  | @deny e h1 h2 =>
    rw [h1] at hat hwl
    exact { h with acc := hat, wakeLive := fun hc _ => hwl hc rfl, ret := notRet (by rw [h1]; nofun) }
  | @execute e p h1 h2 =>
    rw [h1] at hat hwl
    have hsub := h.subm
    cases Pool.Step.of_step h2
    exact { h with
      pool := h.pool.step h2, subm := by simp [hsub], acc := hat, wakeLive := fun hc _ => hwl hc rfl
      ret := notRet (by rw [h1]; nofun) }
  | @poolStop p h1 h2 =>
    rw [h1] at hat
    exact { h with
      pool := h.pool.step h2, subm := h.subm.trans (submitted_eq h2 rfl).symm, acc := ⟨hat.1, rfl⟩, wakeLive := nofun
      ret := notRet (by rw [h1]; nofun) }
  | dropListener h1 =>
    rw [h1] at hat
    exact { h with
      acc := ⟨hat.1, rfl, hat.2⟩, wakeFlag := nofun, wakeLive := nofun, ret := notRet (by rw [h1]; nofun) }
  | @poolDrop l p h1 h2 h3 =>
    exact { h with
      pool := h.pool.step h3, subm := h.subm.trans (submitted_eq h3 (drop_not_submit h2)).symm
      acc := by rw [h1] at hat ⊢; exact hat }
  | exit h1 h2 =>
    rw [h1] at hat
    exact { h with acc := ⟨hat.1, hat.2.1, hat.2.2, h2⟩, wakeLive := nofun, ret := notRet (by rw [h1]; nofun) }
  | @worker l p h1 h2 =>
    have hk := (Pool.Step.of_step h2).caller_frame (callerAt_of_not_owner h1)
    exact { h with
      pool := h.pool.step h2, subm := h.subm.trans (submitted_eq h2 (owner_false_not_submit h1)).symm
      acc := hat.congr id rfl rfl rfl hk.1 hk.2.1 }

theorem Inv.mem_submitted {c : Cfg} {s : State} (h : Inv c s) {x : Entry × Pool.TaskId} (hx : x ∈ s.dispatched) :
    x.2 ∈ s.pool.submitted :=
  h.subm ▸ List.mem_map_of_mem hx

theorem Inv.of_reachable {c : Cfg} {s : State} (h : Reachable c s) : Inv c s :=
  Reachable.induct (inv_init c) (fun _ _ _ hs st => inv_step hs st) h

/-- How often `e` is the connection in the accept thread's hands (0 or 1), and how often it is the one
admitted and not yet handed to the pool: the summands of `InvCount` as `serves_until_signal` states them. -/
def handC (a : Acc) (e : Entry) : Nat := if inHand a = some e then 1 else 0
def execC (a : Acc) (e : Entry) : Nat := if a = .execute e then 1 else 0

/-- The connection that has been admitted and not yet handed to the pool. -/
def toExecute : Acc → Option Entry
  | .execute e => some e
  | _ => none

theorem count_toList (o : Option Entry) (e : Entry) : o.toList.count e = if o = some e then 1 else 0 := by
  cases o with
  | none => rfl
  | some x => simp only [Option.toList_some, List.count_singleton, Option.some.injEq, beq_iff_eq]

theorem handC_eq (a : Acc) (e : Entry) : handC a e = (inHand a).toList.count e := (count_toList _ e).symm

theorem execC_eq (a : Acc) (e : Entry) : execC a e = (toExecute a).toList.count e := by
  rw [count_toList]; cases a <;> simp [execC, toExecute]

/-- Every accepted connection is in exactly one place: handed to the pool, dealt with by the loop itself, in
the accept thread's hands, or dropped at `break`; likewise every admitted one. -/
structure InvCount (s : State) : Prop where
  acct : ∀ e, s.accepted.count e = (s.dispatched.map Prod.fst).count e + s.notServed.count e +
    (inHand s.acc).toList.count e + s.brokeOn.toList.count e
  adm : ∀ e, s.admitted.count e = (s.dispatched.map Prod.fst).count e + (toExecute s.acc).toList.count e

theorem invCount_init (c : Cfg) : InvCount (init c) := ⟨fun _ => rfl, fun _ => rfl⟩

theorem invCount_step {c : Cfg} {s s' : State} {l : Label} (hi : Inv c s) (h : InvCount s) (st : Step c s l s') :
    InvCount s' := by
  obtain ⟨ha, hd⟩ := h
  cases st
  case arrive | signal | recvSignal | storeFlag | selfConnectOk | selfConnectRefused | joinAccept | poolDrop | worker =>
    exact ⟨ha, hd⟩
  case «break» h1 _ =>
    -- the only step that fills `brokeOn`: it was empty
    have hb := (hi.acc.inLoop (by rw [h1]; rfl)).2.2.2
    rw [h1] at ha hd
    refine ⟨fun e => ?_, hd⟩
    have := ha e
    simp only [hb, inHand, Option.toList_some, Option.toList_none, List.count_nil] at this ⊢
    omega
  -- the other steps of the accept thread move the connection in hand from one place to another
  case accept h1 _ | skipErr h1 _ _ | toCond h1 _ _ | letIn h1 _ | deny h1 _ | execute h1 _ | poolStop h1 _ |
      dropListener h1 | exit h1 _ =>
    rw [h1] at ha hd
    refine ⟨fun e => ?_, fun e => ?_⟩
    · have := ha e
      simp only [inHand, Option.toList_some, Option.toList_none, List.map_append, List.map_cons, List.map_nil,
        List.count_append, List.count_nil] at this ⊢
      omega
    · have := hd e
      simp only [toExecute, Option.toList_some, Option.toList_none, List.map_append, List.map_cons, List.map_nil,
        List.count_append, List.count_nil] at this ⊢
      omega

theorem InvCount.of_reachable {c : Cfg} {s : State} (h : Reachable c s) : InvCount s :=
  (Reachable.induct (P := fun s => Inv c s ∧ InvCount s) ⟨inv_init c, invCount_init c⟩
    (fun _ _ _ hs st => ⟨inv_step hs.1 st, invCount_step hs.1 hs.2 st⟩) h).2

open ShutdownSpec in
/-- What an observer sees of a step. Connection ids are the client ids; the wake-up connection and accept
errors have none. -/
def evOf : Label → Ev
  | .recvSignal => .signalTaken
  | .storeFlag => .flagStored
  | .selfConnect => .wakeSent
  | .accept => .acceptReturned
  | .checkFlag true => .loopLeft
  | .poolStop => .poolStopped
  | .dropListener => .listenerDropped
  | .poolDrop l => if l = .dropSender then .poolDropped else .other
  | .joinAccept => .returned
  | _ => .other

def unfinished (s : State) : Nat :=
  (s.dispatched.filter fun (_, k) => !(s.pool.finished.contains k || s.pool.panicked.contains k)).length

open ShutdownSpec in
def endOf (s : State) : End where
  callerReturned := s.caller == .returned
  listenerOpen := s.listenerOpen
  poolStopped := s.stopDone
  poolDropped := s.pool.life == .dropped
  unfinished := unfinished s
  workersLeft := s.pool.workers.length - Pool.exitedCount s.pool.workers

end Humphrey.Shutdown
