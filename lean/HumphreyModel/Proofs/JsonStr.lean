import HumphreyModel.Proofs.JsonNum

/-!
For C13: whitespace and delimiters; strings. For strings, the spec's
`StrBody` is compared with the model in three places: `parseString` reads every `StrBody` text
back, whatever `parseString` reads is one, and `escapeString` writes one. That `parseString`
inverts `escapeString` is a consequence of the first and the third.
-/
namespace Humphrey.Json
open Humphrey.JsonSpec

theorem isWhitespace_iff (c : Char) : isWhitespace c = true ↔ WsChar c := by
  simp [isWhitespace, WsChar, or_assoc]

theorem ws_nil : Ws [] := by intro c h; cases h

theorem ws_append {a b : List Char} (ha : Ws a) (hb : Ws b) : Ws (a ++ b) := by
  intro c hc
  rcases List.mem_append.1 hc with h | h
  · exact ha c h
  · exact hb c h

theorem flush_ws_append {w : List Char} (x : List Char) (hw : Ws w) :
    flushWhitespace (w ++ x) = flushWhitespace x := by
  induction w with
  | nil => rfl
  | cons c w ih =>
    have hc : isWhitespace c = true := (isWhitespace_iff c).2 (hw c (by simp))
    simp only [flushWhitespace, List.cons_append, List.dropWhile_cons, hc, if_true]
    exact ih (fun x hx => hw x (by simp [hx]))

theorem flush_nonws {c : Char} (r : List Char) (h : isWhitespace c = false) :
    flushWhitespace (c :: r) = c :: r := by
  simp [flushWhitespace, h]

theorem flush_ws_cons {w : List Char} {c : Char} (x : List Char) (hw : Ws w) (hc : isWhitespace c = false) :
    flushWhitespace (w ++ c :: x) = c :: x := by
  rw [flush_ws_append _ hw, flush_nonws _ hc]

theorem flush_ws {w : List Char} (hw : Ws w) : flushWhitespace w = [] := by
  have := flush_ws_append [] hw
  simpa [flushWhitespace] using this

theorem flush_split (s : List Char) : ∃ w, Ws w ∧ s = w ++ flushWhitespace s :=
  ⟨s.takeWhile isWhitespace, fun c hc => (isWhitespace_iff c).1 (List.all_eq_true.1 List.all_takeWhile c hc),
    List.takeWhile_append_dropWhile.symm⟩

theorem flush_cons {s rest : List Char} {c : Char} (h : flushWhitespace s = c :: rest) :
    ∃ w, Ws w ∧ s = w ++ c :: rest := by
  obtain ⟨w, hw, hs⟩ := flush_split s
  exact ⟨w, hw, h ▸ hs⟩

/-- what may follow a literal token: end of input or a character that ends the token -/
def Delim (l : List Char) : Prop := ∀ c r, l = c :: r → isLiteral c = false

theorem delim_nil : Delim [] := by intro c r h; cases h
theorem delim_cons {c : Char} {r : List Char} (h : isLiteral c = false) : Delim (c :: r) := by
  intro c' r' e; cases e; exact h

theorem isLiteral_ws {c : Char} (h : WsChar c) : isLiteral c = false := by
  have := (isWhitespace_iff c).2 h
  simp [isLiteral, this]

theorem delim_ws_append {w x : List Char} (hw : Ws w) (hx : Delim x) : Delim (w ++ x) := by
  cases w with
  | nil => simpa using hx
  | cons c w => exact delim_cons (isLiteral_ws (hw c (by simp)))

theorem delim_ws_then {w x : List Char} {c : Char} (hw : Ws w) (hc : isLiteral c = false) :
    Delim (w ++ c :: x) := delim_ws_append hw (delim_cons hc)

theorem hexVal_of_hexDigit {c : Char} {v : Nat} (h : HexDigit c v) : hexVal c = some v := by
  unfold hexVal
  -- the three ranges are disjoint: '9' < 'A', 'F' < 'a'
  rcases h with ⟨h1, h2, rfl⟩ | ⟨h1, h2, rfl⟩ | ⟨h1, h2, rfl⟩
  · rw [if_pos ⟨h1, h2⟩]
  · rw [if_neg fun h => absurd (Char.le_trans h1 h.2) (by decide), if_pos ⟨h1, h2⟩]
  · rw [if_neg fun h => absurd (Char.le_trans h1 h.2) (by decide),
      if_neg fun h => absurd (Char.le_trans h.1 h2) (by decide), if_pos ⟨h1, h2⟩]

theorem hexDigit_of_hexVal {c : Char} {v : Nat} (h : hexVal c = some v) : HexDigit c v := by
  unfold hexVal at h
  rcases ite_some h with ⟨h1, rfl⟩ | ⟨-, h⟩
  · exact .inl ⟨h1.1, h1.2, rfl⟩
  rcases ite_some h with ⟨h1, rfl⟩ | ⟨-, h⟩
  · exact .inr (.inl ⟨h1.1, h1.2, rfl⟩)
  rcases ite_some h with ⟨h1, rfl⟩ | ⟨-, h⟩
  · exact .inr (.inr ⟨h1.1, h1.2, rfl⟩)
  · cases h

theorem hex4_of_Hex4 {h : List Char} {n : Nat} (hh : Hex4 h n) (t : List Char) :
    hex4 (h ++ t) = some (n, t) := by
  cases hh with
  | mk ha hb hc hd =>
    simp [hex4, hexVal_of_hexDigit ha, hexVal_of_hexDigit hb, hexVal_of_hexDigit hc, hexVal_of_hexDigit hd]

theorem Hex4_of_hex4 {s r : List Char} {n : Nat} (h : hex4 s = some (n, r)) :
    ∃ hx, Hex4 hx n ∧ s = hx ++ r := by
  revert h
  fun_cases hex4 s
  case case1 a b c d rest x y z w hd hc hb ha =>
    intro h; cases h
    exact ⟨[a, b, c, d], .mk (hexDigit_of_hexVal ha) (hexDigit_of_hexVal hb) (hexDigit_of_hexVal hc)
      (hexDigit_of_hexVal hd), rfl⟩
  all_goals intro h; cases h

theorem hexVal_hexDigit {k : Nat} (h : k < 16) : hexVal (hexDigit k) = some k :=
  (by decide : ∀ k : Fin 16, hexVal (hexDigit k.val) = some k.val) ⟨k, h⟩

theorem Hex4_hex4Digits {n : Nat} (h : n < 0x10000) : Hex4 (hex4Digits n) n := by
  have d (m : Nat) : HexDigit (hexDigit (m % 16)) (m % 16) :=
    hexDigit_of_hexVal (hexVal_hexDigit (Nat.mod_lt m (by decide)))
  have := Hex4.mk (d (n / 4096)) (d (n / 256)) (d (n / 16)) (d n)
  -- the digits put together again, from the top (`omega` proves this too but is far slower to check)
  have e : ((n / 4096 % 16 * 16 + n / 256 % 16) * 16 + n / 16 % 16) * 16 + n % 16 = n := by
    have e3 : n / 4096 % 16 = n / 256 / 16 := by
      rw [Nat.div_div_eq_div_mul]; exact Nat.mod_eq_of_lt (Nat.div_lt_of_lt_mul h)
    have e2 : n / 256 = n / 16 / 16 := (Nat.div_div_eq_div_mul n 16 16).symm
    rw [e3, Nat.mul_comm (n / 256 / 16) 16, Nat.div_add_mod, e2, Nat.mul_comm (n / 16 / 16) 16, Nat.div_add_mod,
      Nat.mul_comm (n / 16) 16, Nat.div_add_mod]
  rwa [e] at this

theorem parseEscape_simple {e c : Char} (h : SimpleEscape e c) (t : List Char) :
    parseEscape (e :: t) = some (c, t) := by
  cases h <;> rfl

theorem unescaped_ne {c : Char} (h : Unescaped c) : c ≠ '\\' ∧ c ≠ '"' := by
  unfold Unescaped at h
  constructor
  · intro e; subst e; revert h; decide
  · intro e; subst e; revert h; decide

theorem parseString_of_strBody {t s : List Char} (h : StrBody t s) (rest : List Char) :
    parseString (t ++ '"' :: rest) = some (s, rest) := by
  induction h with
  | nil => simp [parseString_cons]
  | @raw c t s hc _ ih =>
    obtain ⟨h1, h2⟩ := unescaped_ne hc
    simp [parseString_cons, h1, h2, (unescaped_iff c).2 hc, ih]
  | @esc e c t s he _ ih =>
    simp only [List.cons_append, parseString_cons, if_true, parseEscape_simple he, ih, consResult_some]
  | @u h t s n hh hn _ ih =>
    simp only [List.cons_append, List.append_assoc, parseString_cons, if_true, parseEscape,
      parseUnicodeEscape, hex4_of_Hex4 hh, hn, ih, consResult_some]
  | @pair h1 h2 t s hi lo hh1 hh2 a1 a2 a3 a4 _ ih =>
    have hns : ¬ (hi < 0xD800 ∨ 0xDFFF < hi) := by omega
    simp only [List.cons_append, List.append_assoc, parseString_cons, if_true, parseEscape,
      parseUnicodeEscape, hex4_of_Hex4 hh1, hns, if_false, parseLowSurrogate, and_self,
      hex4_of_Hex4 hh2, a2, a3, a4, ih, consResult_some]

theorem simpleEscape_sound {e c : Char} (h : simpleEscape e = some c) : SimpleEscape e c := by
  unfold simpleEscape at h
  rcases ite_some h with ⟨rfl, rfl⟩ | ⟨-, h⟩
  · exact .quote
  rcases ite_some h with ⟨rfl, rfl⟩ | ⟨-, h⟩
  · exact .backslash
  rcases ite_some h with ⟨rfl, rfl⟩ | ⟨-, h⟩
  · exact .slash
  rcases ite_some h with ⟨rfl, rfl⟩ | ⟨-, h⟩
  · exact .b
  rcases ite_some h with ⟨rfl, rfl⟩ | ⟨-, h⟩
  · exact .f
  rcases ite_some h with ⟨rfl, rfl⟩ | ⟨-, h⟩
  · exact .n
  rcases ite_some h with ⟨rfl, rfl⟩ | ⟨-, h⟩
  · exact .r
  rcases ite_some h with ⟨rfl, rfl⟩ | ⟨-, h⟩
  · exact .t
  · cases h

/-- The character is on the right of the last equation so that `rfl` patterns substitute it:
the other way round `subst` evaluates `Char.ofNat (65536 + …)` and runs out of stack. -/
theorem parseLowSurrogate_sound {hi : Nat} {s r : List Char} {x : Char}
    (h : parseLowSurrogate hi s = some (x, r)) :
    ∃ h2 lo, Hex4 h2 lo ∧ s = '\\' :: 'u' :: (h2 ++ r) ∧ hi ≤ 0xDBFF ∧ 0xDC00 ≤ lo ∧ lo ≤ 0xDFFF ∧
      Char.ofNat (0x10000 + (hi - 0xD800) * 0x400 + (lo - 0xDC00)) = x := by
  revert h
  fun_cases parseLowSurrogate hi s
  case case2 b u rest hbu lo r' hh hlo =>
    intro h
    obtain ⟨rfl, rfl⟩ := Prod.mk.inj (Option.some.inj h)
    obtain ⟨rfl, rfl⟩ := hbu
    obtain ⟨h2, hh2, rfl⟩ := Hex4_of_hex4 hh
    exact ⟨h2, lo, hh2, rfl, hlo.1, hlo.2.1, hlo.2.2, rfl⟩
  all_goals intro h; cases h

/-- one `\u` escape (or a surrogate pair of two), input after `\u`, as a step of `StrBody` -/
theorem parseUnicodeEscape_sound {s r : List Char} {x : Char} (h : parseUnicodeEscape s = some (x, r)) :
    ∃ e, s = e ++ r ∧ ∀ t str, StrBody t str → StrBody ('\\' :: 'u' :: (e ++ t)) (x :: str) := by
  revert h
  fun_cases parseUnicodeEscape s
  case case1 => intro h; cases h
  case case2 hi r' hh hns =>
    intro h
    obtain ⟨rfl, rfl⟩ := Prod.mk.inj (Option.some.inj h)
    obtain ⟨h1, hh1, rfl⟩ := Hex4_of_hex4 hh
    exact ⟨h1, rfl, fun _ _ hb => .u hh1 hns hb⟩
  case case3 hi r' hh hsur =>
    intro h
    obtain ⟨h1, hh1, rfl⟩ := Hex4_of_hex4 hh
    obtain ⟨h2, lo, hh2, rfl, a2, a3, a4, rfl⟩ := parseLowSurrogate_sound h
    refine ⟨h1 ++ '\\' :: 'u' :: h2, by simp, fun t str hb => ?_⟩
    have := StrBody.pair hh1 hh2 (by omega) a2 a3 a4 hb
    simpa using this

/-- one escape, input after the backslash, as a step of `StrBody` -/
theorem parseEscape_sound {s r : List Char} {x : Char} (h : parseEscape s = some (x, r)) :
    ∃ e, s = e ++ r ∧ ∀ t str, StrBody t str → StrBody ('\\' :: (e ++ t)) (x :: str) := by
  revert h
  fun_cases parseEscape s
  case case2 rest =>
    intro h
    obtain ⟨e, rfl, hstep⟩ := parseUnicodeEscape_sound h
    exact ⟨'u' :: e, rfl, hstep⟩
  case case3 c rest _ y hy =>
    intro h; cases h
    exact ⟨[c], rfl, fun t str hb => .esc (simpleEscape_sound hy) hb⟩
  all_goals intro h; cases h

theorem parseString_sound {s str r : List Char} (h : parseString s = some (str, r)) :
    ∃ t, s = t ++ '"' :: r ∧ StrBody t str := by
  fun_induction parseString s generalizing str r with
  | case1 | case2 | case3 | case6 | case8 => cases h
  | case4 rest x rest' he str' r' hps ih => -- an escape
    cases h
    obtain ⟨e, rfl, hstep⟩ := parseEscape_sound he
    obtain ⟨t, rfl, hb⟩ := ih hps
    exact ⟨'\\' :: (e ++ t), by simp, hstep t _ hb⟩
  | case5 => cases h; exact ⟨[], rfl, .nil⟩ -- the closing quote
  | case7 c rest _ _ hu str' r' hps ih => -- an unescaped character
    cases h
    obtain ⟨t, rfl, hb⟩ := ih hps
    exact ⟨c :: t, rfl, .raw ((unescaped_iff c).1 hu) hb⟩

/-- The three forms `escapeChar c` can take, each with the rule of `StrBody` it is an instance of. -/
theorem escapeChar_cases (c : Char) :
    (∃ e, SimpleEscape e c ∧ escapeChar c = ['\\', e]) ∨
    (Unescaped c ∧ escapeChar c = [c]) ∨
    (c.toNat < 0x20 ∧ escapeChar c = '\\' :: 'u' :: hex4Digits c.toNat) := by
  fun_cases escapeChar c
  · rename_i h; exact .inl ⟨_, char_eq_of_toNat h ▸ .quote, rfl⟩
  · rename_i h; exact .inl ⟨_, char_eq_of_toNat h ▸ .backslash, rfl⟩
  · rename_i h; exact .inl ⟨_, char_eq_of_toNat h ▸ .slash, rfl⟩
  · rename_i h; exact .inl ⟨_, char_eq_of_toNat h ▸ .b, rfl⟩
  · rename_i h; exact .inl ⟨_, char_eq_of_toNat h ▸ .f, rfl⟩
  · rename_i h; exact .inl ⟨_, char_eq_of_toNat h ▸ .n, rfl⟩
  · rename_i h; exact .inl ⟨_, char_eq_of_toNat h ▸ .r, rfl⟩
  · rename_i h; exact .inl ⟨_, char_eq_of_toNat h ▸ .t, rfl⟩
  · rename_i h; exact .inr (.inl ⟨(unescaped_iff c).1 h, rfl⟩)
  · rename_i n _ _ _ _ _ _ _ _ h
    refine .inr (.inr ⟨?_, rfl⟩)
    -- not unescaped leaves `"`, `\` (excluded above) and the control characters
    have := toNat_lt c
    have hu := mt (unescaped_iff c).2 h
    unfold Unescaped at hu
    have : n = c.toNat := rfl
    omega

theorem strBody_escapeChar (c : Char) {t s : List Char} (h : StrBody t s) :
    StrBody (escapeChar c ++ t) (c :: s) := by
  rcases escapeChar_cases c with ⟨e, he, hc⟩ | ⟨hu, hc⟩ | ⟨hlt, hc⟩
  · rw [hc]; exact .esc he h
  · rw [hc]; exact .raw hu h
  · have := StrBody.u (Hex4_hex4Digits (n := c.toNat) (by omega)) (Or.inl (by omega)) h
    rw [Char.ofNat_toNat] at this
    rw [hc]; exact this

theorem strBody_escapeString (s : List Char) : StrBody (escapeString s) s := by
  induction s with
  | nil => exact .nil
  | cons c s ih => exact strBody_escapeChar c ih

theorem parseString_escapeString (s rest : List Char) :
    parseString (escapeString s ++ '"' :: rest) = some (s, rest) :=
  parseString_of_strBody (strBody_escapeString s) rest

/-- `parse_string` inverts `string_to_string`: reading the text after the opening quote. -/
theorem parseString_stringToString (s rest : List Char) :
    ∃ t, stringToString s ++ rest = '"' :: t ∧ parseString t = some (s, rest) := by
  refine ⟨escapeString s ++ '"' :: rest, ?_, parseString_escapeString s rest⟩
  simp [stringToString]

end Humphrey.Json
