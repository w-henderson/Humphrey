import HumphreyModel.Proofs.Base64DecodeLoop

/-! Round trip: the encoder's output is well shaped, and its bit-level decoding is the input. -/
namespace Humphrey.Base64

theorem gshape_encode (bs : Bytes) : GShape (encode bs) := by
  induction bs using encode.induct with
  | case1 a b c rest ih =>
    obtain ⟨h0, h1, h2, h3⟩ := groupIndices_lt a.toNat_lt b.toNat_lt c.toNat_lt
    exact .full (sextet_sym h0) (sextet_sym h1) (sextet_sym h2) (sextet_sym h3) ih
  | case2 a =>
    have := a.toNat_lt
    exact .pad2 (sextet_sym (by omega)) (sextet_sym (by omega))
  | case3 a b =>
    have := a.toNat_lt
    have := b.toNat_lt
    exact .pad1 (sextet_sym (by omega)) (sextet_sym (by omega)) (sextet_sym (by omega))
  | case4 => exact .nil

theorem encode_length_mod (bs : Bytes) : (encode bs).length % 4 = 0 := (gshape_encode bs).length_mod

theorem ofNat_of_eq_toNat {n : Nat} {b : UInt8} (h : n = b.toNat) : UInt8.ofNat n = b := by
  rw [h]; exact UInt8.ofNat_toNat

/-- The four indices of a group, weighted by their positions, are the three octets again. -/
theorem groupIndices_value (a b c : Nat) :
    a / 4 * 262144 + (a % 4 * 16 + b / 16) * 4096 + (b % 16 * 4 + c / 64) * 64 + c % 64 =
      a * 65536 + b * 256 + c := by
  grind

theorem beBytes_group (a b c : UInt8) :
    ((beBytes (a.toNat * 65536 + b.toNat * 256 + c.toNat)).take 4).drop 1 = [a, b, c] := by
  have := a.toNat_lt
  have := b.toNat_lt
  have := c.toNat_lt
  simp only [beBytes, List.take, List.drop, List.cons.injEq, and_true]
  exact ⟨ofNat_of_eq_toNat (by omega), ofNat_of_eq_toNat (by omega), ofNat_of_eq_toNat (by omega)⟩

/-- The bit-level decoder inverts the encoder. -/
theorem spec_decode_encode (bs : Bytes) : Spec.decode (encode bs) = bs := by
  induction bs using encode.induct with
  | case1 a b c rest ih =>
    obtain ⟨h0, h1, h2, h3⟩ := groupIndices_lt a.toNat_lt b.toNat_lt c.toNat_lt
    simp only [encode, groupIndices, List.map_cons, List.map_nil, List.cons_append, List.nil_append]
    rw [spec_decode_full (sextet_sym h0) (sextet_sym h1) (sextet_sym h2) (sextet_sym h3), ih,
      groupIndices_value, beBytes_group]
    rfl
  | case2 a =>
    have := a.toNat_lt
    have h0 : a.toNat / 4 < 64 := by omega
    have h1 : a.toNat % 4 * 16 < 64 := by omega
    rw [encode, spec_decode_pad2 (sextet_sym h0) (sextet_sym h1)]
    simp only [beBytes, List.take, List.drop, List.cons.injEq, and_true]
    exact ofNat_of_eq_toNat (by grind)
  | case3 a b =>
    have := a.toNat_lt
    have := b.toNat_lt
    have h0 : a.toNat / 4 < 64 := by omega
    have h1 : a.toNat % 4 * 16 + b.toNat / 16 < 64 := by omega
    have h2 : b.toNat % 16 * 4 < 64 := by omega
    rw [encode, spec_decode_pad1 (sextet_sym h0) (sextet_sym h1) (sextet_sym h2)]
    simp only [beBytes, List.take, List.drop, List.cons.injEq, and_true]
    exact ⟨ofNat_of_eq_toNat (by omega), ofNat_of_eq_toNat (by grind)⟩
  | case4 => rfl

end Humphrey.Base64
