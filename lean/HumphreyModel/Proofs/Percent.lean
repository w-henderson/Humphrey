import HumphreyModel.Model.Percent
import HumphreyModel.Spec.Percent
import HumphreyModel.Proofs.CodecByte

/-! The model's tables against RFC 3986: the unreserved set and the hexadecimal digits. -/
namespace Humphrey.Percent

theorem unreservedChars_eq : unreservedChars =
    (List.range' 0x41 26 ++ List.range' 0x61 26 ++ List.range' 0x30 10 ++ [0x2D, 0x5F, 0x2E, 0x7E]).map
      UInt8.ofNat := by decide

/-- The model's table of unreserved characters is the RFC 3986 §2.3 set: the table is three ranges and
four single characters, and membership in a range is arithmetic. -/
theorem contains_eq_unreserved (b : UInt8) : unreservedChars.contains b = Spec.unreserved b := by
  have hb := b.toNat_lt
  rw [Bool.eq_iff_iff, List.contains_iff_mem, unreservedChars_eq]
  simp only [List.mem_map, List.mem_append, List.mem_range'_1, List.mem_cons, List.not_mem_nil,
    or_false, Spec.unreserved, Bool.or_eq_true, Bool.and_eq_true, decide_eq_true_eq, beq_iff_eq]
  constructor
  · rintro ⟨n, hn, rfl⟩
    have hn' : n < 256 := by omega
    simp only [UInt8.toNat_ofNat', Nat.mod_eq_of_lt hn']
    grind
  · intro h
    exact ⟨b.toNat, by grind, by simp⟩

/-- `to_digit(16)` on a byte is the RFC's HEXDIG value: what `hexVal` takes for a digit stands at that
index in one of the two tables, and every entry of the tables is a digit for `hexVal`. -/
theorem hexVal_eq_spec (c : UInt8) : hexVal c = Spec.hexDigitValue c := by
  cases h : hexVal c with
  | some v =>
    have := forall_byte (p := fun c => match hexVal c with
      | some v => Spec.hexDigitValue c == some v
      | none => true) (by decide) c
    rw [h] at this
    exact (eq_of_beq this).symm
  | none =>
    have digits : (Spec.upperHexDigits ++ Spec.lowerHexDigits).all (fun d => (hexVal d).isSome) = true := by
      decide
    have hc : c ∉ Spec.upperHexDigits ++ Spec.lowerHexDigits := fun hm => by
      simpa [h] using List.all_eq_true.mp digits c hm
    rw [List.mem_append, not_or] at hc
    rw [Spec.hexDigitValue, List.idxOf?_eq_none_iff.mpr hc.1, List.idxOf?_eq_none_iff.mpr hc.2]
    rfl

theorem hexUpper_table : ∀ n : Fin 16,
    hexUpper n.val = Spec.upperHexDigits.getD n.val 0 ∧ hexVal (hexUpper n.val) = some n.val := by
  decide

theorem hexUpper_eq_spec {n : Nat} (h : n < 16) : hexUpper n = Spec.upperHexDigits.getD n 0 :=
  (hexUpper_table ⟨n, h⟩).1

theorem hexVal_hexUpper {n : Nat} (h : n < 16) : hexVal (hexUpper n) = some n :=
  (hexUpper_table ⟨n, h⟩).2

theorem hexVal_lt {c : UInt8} {v : Nat} (h : hexVal c = some v) : v < 16 := by
  unfold hexVal at h
  split at h
  · simp at h; omega
  · split at h
    · simp at h; omega
    · split at h
      · simp at h; omega
      · simp at h

theorem hexVal_percent : hexVal 37 = none := by decide

theorem unreserved_ne_percent {b : UInt8} (h : unreservedChars.contains b = true) : b ≠ 37 := by
  rintro rfl
  revert h
  decide

end Humphrey.Percent
