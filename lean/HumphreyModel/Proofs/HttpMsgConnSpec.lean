import HumphreyModel.Proofs.HttpMsgConn
/-
`Spec.checkResponse` accepts what the loop writes for a request (up to the recorded CRLF pad).
-/
namespace Humphrey.Http
open Humphrey Humphrey.Bytes

theorem msgHeader_serialize (r : Response) (h : r.WF) (n b v p : Bytes) (c : Nat) :
    Spec.msgHeader ⟨v, c, p,
      r.headers.sorted.map (fun h => (asciiLower h.name.display, h.value)), b⟩ n = r.headers.get ⟨n⟩ := by
  simp only [Spec.msgHeader]
  rw [wire_fields_eq r.headers (fun x hx => (h.headers x hx).name), fields_find, sorted_get]

/-- If the guard of a clause fails, the verdict is that of the remaining clauses. -/
theorem ite_mem {α : Type} {c : Prop} [Decidable c] {t e : α} {l : List α} (hc : ¬ c) (he : e ∈ l) :
    (if c then t else e) ∈ l := by
  rw [if_neg hc]; exact he

theorem checkResponse_ok {κ ω : Type} (cfg : ConnCfg κ ω) (req : Request) (ka : Bool) (resp : Response)
    (f : RespFacts cfg req resp) :
    Spec.checkResponse cfg req ka (serializeResponse resp) ∈ [none, some "crlf-after-body"] := by
  obtain ⟨e, _, _, p3, _⟩ := statusKnown_facts resp.status f.wf.status
  have eD : (⟨hDate.lower⟩ : HName) = hDate := rfl
  have eS : (⟨hServer.lower⟩ : HName) = hServer := rfl
  have eC : (⟨hContentLength.lower⟩ : HName) = hContentLength := rfl
  have hdate : resp.headers.get hDate ≠ none := by
    intro h; have := f.date; rw [h] at this; cases this
  have hserver : resp.headers.get hServer ≠ none := by
    intro h; have := f.server; rw [h] at this; cases this
  rw [Spec.checkResponse, parseMsg_serialize resp f.wf]
  simp only [msgHeader_serialize resp f.wf, eD, eS, eC, e, f.version, p3, ne_eq, not_true_eq_false,
    if_false, Bool.not_true, Bool.false_eq_true, Option.isNone_iff_eq_none, hdate, hserver]
  -- the clauses left: unrouted ⇒ 404 (closed here), handled by the route, CORS headers, framing
  refine ite_mem (fun h => absurd (f.unrouted h.1) h.2) (ite_mem ?_ (ite_mem ?_ ?_))
  · -- the status and body are the handler's
    intro h
    cases hg : getHandler cfg.app ((req.headers.get hHost).map cfg.decode) (cfg.decode req.uri) with
    | none => simp [hg] at h
    | some r =>
      by_cases hm : req.method = Method.options
      · simp [hg, hm] at h
      · cases hr : cfg.run r.handler req with
        | panic => simp [hg, hm, hr] at h
        | response x =>
          obtain ⟨q1, q2⟩ := f.handled r x hg hm hr
          by_cases hb : x.body = [] <;> simp [hg, hm, hr, q1, q2, hb] at h
  · -- the route's CORS headers are found under their names
    intro h
    cases hg : getHandler cfg.app ((req.headers.get hHost).map cfg.decode) (cfg.decode req.uri) with
    | none => simp [hg] at h
    | some r =>
      have hc : (r.cors.setHeaders []).all
          (fun h => decide (resp.headers.get ⟨h.name.lower⟩ = some h.value)) = true := by
        simp only [List.all_eq_true, decide_eq_true_eq]
        exact f.cors r hg
      simp [hg, hc] at h
  · -- Content-Length is the body length (the serialiser's CRLF after a non-empty body is the pad), or a 204
    rcases f.framing with ⟨h1, h2⟩ | ⟨h1, h2, h3⟩
    · simp only [h1, Option.bind_some, parseUsize_natToBytes _ h2]
      by_cases hb : resp.body = []
      · simp [hb]
      · have hl : resp.body.length ≠ 0 := fun h0 => hb (List.length_eq_zero_iff.mp h0)
        simp [hb, hl]
    · simp [h1, h2, h3]
end Humphrey.Http
