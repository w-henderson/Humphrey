import HumphreyModel.Model.Conf
import HumphreyModel.Spec.Conf

/-! String-level lemmas for C15: `trim`, `split_once`, `strip_suffix`, `tight` texts, what the
content of a line must be like (`ContentOk`), `clean_up`. -/

namespace Humphrey.Conf

/-- A blank is a space or a tab. -/
theorem blank_facts {c : Char} (h : isBlank c = true) :
    isWhitespace c = true ∧ c ≠ '#' ∧ c ≠ '\n' ∧ c ≠ '\r' := by
  simp only [isBlank, Bool.or_eq_true, beq_iff_eq] at h
  rcases h with rfl | rfl <;> decide

theorem isBlank_ws {c : Char} (h : isBlank c = true) : isWhitespace c = true := (blank_facts h).1

theorem blank_clean {x : Char} (h : isBlank x = true) : x ≠ '#' ∧ x ≠ '\n' :=
  ⟨(blank_facts h).2.1, (blank_facts h).2.2.1⟩

theorem blank_ne_hash {s : Str} (h : ∀ x ∈ s, isBlank x = true) : ∀ x ∈ s, x ≠ '#' :=
  fun x hx => (blank_clean (h x hx)).1

/-! The string literals of the syntax as character lists. Rewrite with these before `decide`: on a goal
that still contains `"lit".toList` the kernel has to decode the literal, which is slow. -/

theorem true_chars : "true".toList = ['t', 'r', 'u', 'e'] := String.toList_ofList
theorem false_chars : "false".toList = ['f', 'a', 'l', 's', 'e'] := String.toList_ofList
theorem route_chars : "route".toList = ['r', 'o', 'u', 't', 'e'] := String.toList_ofList
theorem host_chars : "host".toList = ['h', 'o', 's', 't'] := String.toList_ofList
theorem routePrefix_chars : routePrefix = ['r', 'o', 'u', 't', 'e', ' '] := String.toList_ofList
theorem hostPrefix_chars : hostPrefix = ['h', 'o', 's', 't', ' '] := String.toList_ofList
theorem routeBrace_chars : "route {".toList = ['r', 'o', 'u', 't', 'e', ' ', '{'] := String.toList_ofList
theorem hostBrace_chars : "host {".toList = ['h', 'o', 's', 't', ' ', '{'] := String.toList_ofList
theorem serverLine_chars : serverLine = ['s', 'e', 'r', 'v', 'e', 'r', ' ', '{'] := String.toList_ofList

theorem dropWhile_append_all {p : Char → Bool} {a : Str} (ha : ∀ x ∈ a, p x = true) (s : Str) :
    (a ++ s).dropWhile p = s.dropWhile p := by
  induction a with
  | nil => rfl
  | cons d a ih =>
    rw [List.cons_append, List.dropWhile_cons_of_pos (ha d List.mem_cons_self)]
    exact ih (fun x hx => ha x (List.mem_cons_of_mem _ hx))

theorem dropWhile_of_head {p : Char → Bool} {s : Str} (hs : ∃ c, s.head? = some c ∧ p c = false) :
    s.dropWhile p = s := by
  obtain ⟨c, hc, hp⟩ := hs
  cases s with
  | nil => cases hc
  | cons d s => cases hc; exact List.dropWhile_cons_of_neg (by simp [hp])

theorem trim_wrap {a s b : Str} (ha : ∀ x ∈ a, isWhitespace x = true)
    (hb : ∀ x ∈ b, isWhitespace x = true) (hs : s = [] ∨ tight s) : trim (a ++ s ++ b) = s := by
  unfold trim trimStart trimEnd
  rw [List.append_assoc, dropWhile_append_all ha]
  rcases hs with rfl | ⟨⟨c, hc, hw⟩, ⟨e, he, hwe⟩⟩
  · have hnil := dropWhile_append_all hb []
    rw [List.append_nil] at hnil
    rw [List.nil_append, hnil]
    rfl
  · rw [dropWhile_of_head (s := s ++ b) ⟨c, by rw [List.head?_append, hc]; rfl, hw⟩,
      List.reverse_append, dropWhile_append_all (fun x hx => hb x (List.mem_reverse.mp hx)),
      dropWhile_of_head (s := s.reverse) ⟨e, by rw [List.head?_reverse, he], hwe⟩,
      List.reverse_reverse]

theorem trim_tight {s : Str} (hs : s = [] ∨ tight s) : trim s = s := by
  simpa using trim_wrap (a := []) (b := []) (by simp) (by simp) hs

theorem trim_blanks {a : Str} (ha : ∀ x ∈ a, isWhitespace x = true) : trim a = [] := by
  simpa using trim_wrap (s := []) (b := []) ha (by simp) (Or.inl rfl)

theorem splitOnce_none {c : Char} {a : Str} (ha : ∀ x ∈ a, x ≠ c) : splitOnce c a = none := by
  induction a with
  | nil => rfl
  | cons d a ih =>
    have hd : d ≠ c := ha d (by simp)
    simp [splitOnce, hd, ih (fun x hx => ha x (by simp [hx]))]

theorem splitOnce_append {c : Char} {a b : Str} (ha : ∀ x ∈ a, x ≠ c) :
    splitOnce c (a ++ c :: b) = some (a, b) := by
  induction a with
  | nil => simp [splitOnce]
  | cons d a ih =>
    have hd : d ≠ c := ha d (by simp)
    simp [splitOnce, hd, ih (fun x hx => ha x (by simp [hx]))]

theorem stripSuffixChar_snoc (c : Char) (a : Str) : stripSuffixChar c (a ++ [c]) = some a := by
  simp [stripSuffixChar]

theorem stripSuffixChar_none {c : Char} {s : Str} (h : s.getLast? ≠ some c) :
    stripSuffixChar c s = none := by
  unfold stripSuffixChar
  rw [← List.head?_reverse] at h
  cases hr : s.reverse with
  | nil => rfl
  | cons d r =>
    rw [hr] at h
    have : d ≠ c := by intro e; apply h; simp [e]
    simp [this]

theorem trim_lead {sep s : Str} (hsep : ∀ x ∈ sep, isBlank x = true) (hs : tight s) : trim (sep ++ s) = s := by
  simpa using trim_wrap (b := []) (fun x hx => isBlank_ws (hsep x hx)) (by simp) (Or.inr hs)

theorem trim_trail {s gap : Str} (hs : tight s) (hgap : ∀ x ∈ gap, isBlank x = true) : trim (s ++ gap) = s := by
  simpa using trim_wrap (a := []) (by simp) (fun x hx => isBlank_ws (hgap x hx)) (Or.inr hs)

theorem last_of_all {s : Str} (hne : s ≠ []) {P : Char → Prop} (h : ∀ c ∈ s, P c) :
    ∃ l, s.getLast? = some l ∧ P l := by
  cases hl : s.getLast? with
  | none => exact absurd (List.getLast?_eq_none_iff.mp hl) hne
  | some l => exact ⟨l, rfl, h l (List.mem_of_getLast? hl)⟩

theorem getLast?_append_ne_nil {a b : Str} (hb : b ≠ []) : (a ++ b).getLast? = b.getLast? := by
  obtain ⟨l, hl, _⟩ := last_of_all hb (P := fun _ => True) (fun _ _ => trivial)
  rw [List.getLast?_append, hl]
  rfl

theorem tight_ne_nil {s : Str} (h : tight s) : s ≠ [] := by
  intro e; subst e; obtain ⟨⟨c, hc, _⟩, _⟩ := h; cases hc

theorem tight_of_no_ws {k : Str} (hne : k ≠ []) (h : ∀ c ∈ k, isWhitespace c = false) : tight k := by
  refine ⟨?_, last_of_all hne h⟩
  cases k with
  | nil => exact absurd rfl hne
  | cons c r => exact ⟨c, rfl, h c List.mem_cons_self⟩

theorem tight_of_ends {s : Str} (h1 : s.head?.map isWhitespace = some false)
    (h2 : s.getLast?.map isWhitespace = some false) : tight s := by
  constructor
  · cases h : s.head? with
    | none => rw [h] at h1; cases h1
    | some c => rw [h] at h1; exact ⟨c, rfl, by simpa using h1⟩
  · cases h : s.getLast? with
    | none => rw [h] at h2; cases h2
    | some c => rw [h] at h2; exact ⟨c, rfl, by simpa using h2⟩

theorem tight_append {a b : Str} (ha : tight a) (hb : tight b) (m : Str) : tight (a ++ m ++ b) := by
  have hbne := tight_ne_nil hb
  obtain ⟨⟨c, hc, hcw⟩, _⟩ := ha
  obtain ⟨_, ⟨l, hl, hlw⟩⟩ := hb
  refine ⟨⟨c, ?_, hcw⟩, ⟨l, by rw [getLast?_append_ne_nil hbne]; exact hl, hlw⟩⟩
  rw [List.append_assoc, List.head?_append, hc]
  rfl

theorem quoted_snoc (v : Str) : quoted v = ('"' :: v) ++ ['"'] := rfl

theorem getLast?_quoted (v : Str) : (quoted v).getLast? = some '"' := by
  rw [quoted_snoc, List.getLast?_concat]

theorem tight_quoted (v : Str) : tight (quoted v) :=
  ⟨⟨'"', rfl, by decide⟩, ⟨'"', getLast?_quoted v, by decide⟩⟩

theorem tight_brace : tight ['}'] := ⟨⟨'}', rfl, by decide⟩, ⟨'}', rfl, by decide⟩⟩

/-- A tight text does not end in `\r` (`\r` is white space). -/
theorem clean_tight_last {s : Str} (h : tight s) : s.getLast? ≠ some '\r' := by
  obtain ⟨_, ⟨l, hl, hw⟩⟩ := h
  rw [hl]; intro e; cases e; revert hw; decide

/-- What the line reader needs of the text between indentation and trailing blanks: `clean_up`
gives it back (no `#`, nothing to trim) and `str::lines` does not cut the line in it (no `\n`, and no
`\r` at the end because `\r` is white space). -/
structure ContentOk (c : Str) : Prop where
  tight : tight c
  clean : noHashNl c

theorem ContentOk.noHash {c : Str} (h : ContentOk c) : ∀ x ∈ c, x ≠ '#' := fun x hx => (h.clean x hx).1

theorem ContentOk.noNl {c : Str} (h : ContentOk c) : ∀ x ∈ c, x ≠ '\n' := fun x hx => (h.clean x hx).2

/-- Keys, numbers and keywords: no white space at all, and no `#`. -/
theorem contentOk_of_no_ws {s : Str} (hne : s ≠ []) (h : ∀ c ∈ s, isWhitespace c = false ∧ c ≠ '#') :
    ContentOk s :=
  ⟨tight_of_no_ws hne (fun c hc => (h c hc).1),
    fun c hc => ⟨(h c hc).2, fun e => absurd (e ▸ (h c hc).1) (by decide)⟩⟩

theorem contentOk_brace : ContentOk ['}'] := contentOk_of_no_ws (by decide) (by decide)

theorem okKey_content {k : Str} (h : okKey k) : ContentOk k := contentOk_of_no_ws h.1 h.2.1

theorem okKey_no_space {k : Str} (h : okKey k) : ∀ c ∈ k, c ≠ ' ' :=
  fun c hc e => absurd (e ▸ (h.2.1 c hc).1) (by decide)

theorem spaced_assoc (a sep b : Str) : a ++ ' ' :: sep ++ b = a ++ ' ' :: (sep ++ b) := by simp

/-- Two texts with a space and further blanks between them (key and value, keyword and name). -/
theorem spaced_all {P : Char → Prop} {a sep b : Str} (hP : ∀ x, isBlank x = true → P x)
    (hsep : ∀ x ∈ sep, isBlank x = true) (ha : ∀ x ∈ a, P x) (hb : ∀ x ∈ b, P x) :
    ∀ x ∈ a ++ ' ' :: sep ++ b, P x := by
  intro x hx
  simp only [List.mem_append, List.mem_cons] at hx
  rcases hx with (hx | rfl | hx) | hx
  · exact ha x hx
  · exact hP ' ' (by decide)
  · exact hP x (hsep x hx)
  · exact hb x hx

theorem ContentOk.spaced {a b : Str} (ha : ContentOk a) (hb : ContentOk b) {sep : Str}
    (hsep : ∀ x ∈ sep, isBlank x = true) : ContentOk (a ++ ' ' :: sep ++ b) :=
  ⟨tight_append ha.tight hb.tight (' ' :: sep), spaced_all (fun _ => blank_clean) hsep ha.clean hb.clean⟩

theorem header_tight {hdr : Str} (h : tight hdr) (gap : Str) : tight (hdr ++ gap ++ ['{']) :=
  tight_append h ⟨⟨'{', rfl, by decide⟩, ⟨'{', rfl, by decide⟩⟩ gap

theorem header_all {P : Char → Prop} {hdr gap : Str} (hP : ∀ x, isBlank x = true → P x) (hb : P '{')
    (hgap : ∀ x ∈ gap, isBlank x = true) (h : ∀ x ∈ hdr, P x) : ∀ x ∈ hdr ++ gap ++ ['{'], P x := by
  intro x hx
  simp only [List.mem_append, List.mem_singleton] at hx
  rcases hx with (hx | hx) | rfl
  · exact h x hx
  · exact hP x (hgap x hx)
  · exact hb

theorem ContentOk.header {hdr : Str} (h : ContentOk hdr) {gap : Str} (hgap : ∀ x ∈ gap, isBlank x = true) :
    ContentOk (hdr ++ gap ++ ['{']) :=
  ⟨header_tight h.tight gap, header_all (fun _ => blank_clean) (by decide) hgap h.clean⟩

theorem cleanUp_line {ind content tr : Str} (cm : Option Str)
    (hi : ∀ x ∈ ind, isBlank x = true) (ht : ∀ x ∈ tr, isBlank x = true)
    (hc : ∀ x ∈ content, x ≠ '#') (hs : content = [] ∨ tight content) :
    cleanUp (ind ++ content ++ tr ++ commentText cm) = content := by
  have hno : ∀ x ∈ ind ++ content ++ tr, x ≠ '#' := by
    intro x hx
    simp only [List.mem_append] at hx
    rcases hx with (h | h) | h
    · exact blank_ne_hash hi x h
    · exact hc x h
    · exact blank_ne_hash ht x h
  have htrim := trim_wrap (fun x hx => isBlank_ws (hi x hx)) (fun x hx => isBlank_ws (ht x hx)) hs
  unfold cleanUp
  cases cm with
  | none => rw [commentText, List.append_nil, splitOnce_none hno]; exact htrim
  | some c => rw [commentText, splitOnce_append hno]; exact htrim

theorem cleanUp_filler {f : Str × Option Str} (hf : ∀ x ∈ f.1, isBlank x = true) :
    cleanUp (fillerLine f) = [] := by
  simpa [fillerLine] using cleanUp_line (content := []) (tr := []) f.2 hf (by simp) (by simp) (Or.inl rfl)

/-- The decorated line with content `c`: the last of `mkLines d c`, after the filler lines. -/
def decoLine (d : Deco) (c : Str) : Str := d.indent ++ c ++ d.trail ++ commentText d.comment

theorem cleanUp_decoLine {d : Deco} (hd : d.ok) {c : Str} (hno : ∀ x ∈ c, x ≠ '#') (ht : tight c) :
    cleanUp (decoLine d c) = c :=
  cleanUp_line d.comment hd.2.1 hd.2.2.2.2.1 hno (Or.inr ht)

theorem mkLines_eq (d : Deco) (c : Str) : mkLines d c = d.pre.map fillerLine ++ [decoLine d c] := rfl

theorem mkLines_length (d : Deco) (content : Str) : (mkLines d content).length = d.pre.length + 1 := by
  simp [mkLines]

end Humphrey.Conf
