import HumphreyModel.Proofs.ConfNum
import HumphreyModel.Proofs.GlobMain

/-! Values and section headers as `parse_section` reads them: quoted strings and byte slices, the
four-way typing of a value together with the shape of its text, the classification of a header. -/
namespace Humphrey.Conf
open Humphrey.Glob

theorem takeBytes_append (a b : Str) : takeBytes (a ++ b) (utf8Len a) = some a := by
  induction a with
  | nil => cases b <;> simp [takeBytes, utf8Len]
  | cons c a ih =>
    have hp := Char.utf8Size_pos c
    simp only [List.cons_append, utf8Len]
    obtain ⟨k, hk⟩ : ∃ k, c.utf8Size + utf8Len a = k + 1 := ⟨c.utf8Size + utf8Len a - 1, by omega⟩
    rw [hk, takeBytes]
    have h1 : c.utf8Size ≤ k + 1 := by omega
    have h2 : k + 1 - c.utf8Size = utf8Len a := by omega
    simp [h1, h2, ih]

theorem head?_quoted (v : Str) : (quoted v).head? = some '"' := rfl

theorem utf8Len_quoted (v : Str) : utf8Len (quoted v) = utf8Len ('"' :: v) + 1 := by
  rw [quoted_snoc, utf8Len_append]; rfl

theorem innerSlice_quoted (v : Str) : innerSlice (quoted v) = some v := by
  have h1 : 1 ≤ utf8Len ('"' :: v) := utf8Len_pos (by simp)
  unfold innerSlice byteSlice
  rw [utf8Len_quoted, Nat.add_sub_cancel, quoted_snoc, takeBytes_append, if_pos h1]
  simp [dropBytes, show ('"' : Char).utf8Size = 1 from by decide]

theorem wildcard_quoted (v : Str) : wildcardMatch quotePat (quoted v) = true := by
  refine (matchNoStar_spec quotePat (quoted v)).mpr (.lit (by decide) (glob_star_drop v.length ?_))
  show Glob ['"'] ((v ++ ['"']).drop v.length)
  rw [List.drop_left]
  exact .lit (by decide) .nil

theorem wildcard_quote_shape {x : Str} (h : wildcardMatch quotePat x = true) : ∃ v, x = quoted v := by
  have hg : Glob (['"'] ++ ['*', '"']) x := (matchNoStar_spec _ _).mp h
  obtain ⟨y, rfl, hy⟩ := (glob_lits_append (l := ['"']) (by intro c hc; simp at hc; subst hc; decide)).mp hg
  obtain ⟨k, _, hk⟩ := glob_star.mp hy
  -- the rest after the star is exactly one quotation mark
  cases hd : y.drop k with
  | nil => rw [hd] at hk; exact absurd hk (glob_lit_nil (by decide))
  | cons d r =>
    rw [hd] at hk
    obtain ⟨hdq, hr⟩ := (glob_lit_cons (by decide)).mp hk
    have hr' : r = [] := glob_nil_left.mp hr
    subst hr' hdq
    refine ⟨y.take k, ?_⟩
    have : y = y.take k ++ y.drop k := (List.take_append_drop k y).symm
    rw [hd] at this
    simp [quoted, ← this]

theorem wildcard_false_of_head {c : Char} {r : Str} (hc : c ≠ '"') :
    wildcardMatch quotePat (c :: r) = false := by
  have h1 : ¬ ('"' : Char) = c := fun e => hc e.symm
  simp [wildcardMatch, quotePat, matchNoStar, h1]

/-- What the line-level lemmas need to know about a value text. -/
structure ValueOk (value : Str) : Prop extends ContentOk value where
  last : value.getLast? ≠ some '{'

theorem typeValue_string (k v : Str) : typeValue k (quoted v) = .ok (.string k v) := by
  simp [typeValue, wildcard_quoted, innerSlice_quoted]

theorem valueOk_quoted {v : Str} (h : noHashNl v) : ValueOk (quoted v) := by
  refine ⟨⟨tight_quoted v, fun c hc => ?_⟩, by rw [getLast?_quoted]; decide⟩
  simp only [quoted, List.mem_cons, List.mem_append, List.not_mem_nil, or_false] at hc
  rcases hc with (rfl | hc) | rfl
  · decide
  · exact h c hc
  · decide

theorem typeValue_number {k v : Str} (h : (parseI64 v).isSome = true) :
    typeValue k v = .ok (.number k v) := by
  obtain ⟨i, hi⟩ := Option.isSome_iff_exists.mp h
  obtain ⟨c, r, rfl, hc⟩ := (numText_of_parse hi).head
  simp [typeValue, wildcard_false_of_head (signDigit_facts hc).2.2.2, hi]

theorem valueOk_num {v : Str} (h : NumText v) : ValueOk v := by
  obtain ⟨l, hl, hdl⟩ := h.last
  refine ⟨contentOk_of_no_ws (by intro e; subst e; cases hl) (fun c hc => ?_), ?_⟩
  · exact ⟨(signDigit_facts (h.chars c hc)).1, (signDigit_facts (h.chars c hc)).2.1⟩
  · rw [hl]; intro e; cases e; exact absurd rfl (hdl.ne_of_toNat (by decide))

theorem typeValue_bool {k v : Str} (h : v = "true".toList ∨ v = "false".toList) :
    typeValue k v = .ok (.boolean k v) := by
  have hne : ¬ "false".toList = "true".toList := by rw [true_chars, false_chars]; decide
  rcases h with rfl | rfl
  · have h1 : wildcardMatch quotePat "true".toList = false := by rw [true_chars]; decide
    have h2 : parseI64 "true".toList = none := by rw [true_chars]; decide
    simp only [typeValue, h1, h2, parseBool, Bool.false_eq_true, if_false, Option.isSome_none,
      Option.isSome_some, if_true]
  · have h1 : wildcardMatch quotePat "false".toList = false := by rw [false_chars]; decide
    have h2 : parseI64 "false".toList = none := by rw [false_chars]; decide
    simp only [typeValue, h1, h2, parseBool, hne, Bool.false_eq_true, if_false, Option.isSome_none,
      Option.isSome_some, if_true]

theorem valueOk_bool {v : Str} (h : v = "true".toList ∨ v = "false".toList) : ValueOk v := by
  rcases h with rfl | rfl
  · rw [true_chars]; exact ⟨contentOk_of_no_ws (by decide) (by decide), by decide⟩
  · rw [false_chars]; exact ⟨contentOk_of_no_ws (by decide) (by decide), by decide⟩

/-- A decimal number followed by one more character that is not a digit: the text is not quoted, not
an `i64` and not a boolean, so its typing is that of `parse_size`. -/
theorem typeValue_showNat_snoc (k : Str) (q : Nat) {u : Char} (hu : digitVal u = none) :
    typeValue k (showNat q ++ [u]) =
      match parseSize (showNat q ++ [u]) with
      | some n => .ok (.number k (showInt n))
      | none => .err () := by
  obtain ⟨c, r, hcr, hd⟩ := showNat_head q
  have h1 : wildcardMatch quotePat (showNat q ++ [u]) = false := by
    rw [hcr]; exact wildcard_false_of_head (hd.ne_of_toNat (by decide))
  have h3 : parseBool (showNat q ++ [u]) = none := by
    have ht : c ≠ 't' := hd.ne_of_toNat (by decide)
    have hf : c ≠ 'f' := hd.ne_of_toNat (by decide)
    simp [hcr, parseBool, ht, hf]
  simp only [typeValue, h1, parseI64_snoc_none hu, h3, Bool.false_eq_true, if_false, Option.isSome_none]
  rfl

theorem valueOk_showNat_snoc (q : Nat) {u : Char} (hw : isWhitespace u = false) (hb : u ≠ '{')
    (hh : u ≠ '#') : ValueOk (showNat q ++ [u]) := by
  refine ⟨contentOk_of_no_ws (by simp) (fun x hx => ?_), by rw [List.getLast?_concat]; intro e; cases e; exact hb rfl⟩
  rcases List.mem_append.mp hx with hx | hx
  · exact ⟨(showNat_all_digits q x hx).not_ws, (showNat_all_digits q x hx).ne_of_toNat (by decide)⟩
  · rw [List.mem_singleton.mp hx]; exact ⟨hw, hh⟩

theorem showInt_ofNat (n : Nat) : showInt (n : Int) = showNat n := by
  simp [showInt]

theorem typeValue_unit {k : Str} {q m : Nat} {u : Char} (hu : unitFactor u = some m)
    (h : q * m < 2 ^ 63) : typeValue k (showNat q ++ [u]) = .ok (.number k (showNat (q * m))) := by
  rw [typeValue_showNat_snoc k q (unit_facts hu).2.1, parseSize_unit hu h]
  simp only [showInt_ofNat]

theorem typeValue_unknown_unit (key : Str) (n : Nat) {u : Char} (hd : digitVal u = none)
    (hu : unitMult (toAsciiUpper u) = none) (hud : digitVal (toAsciiUpper u) = none) :
    typeValue key (showNat n ++ [u]) = .err () := by
  rw [typeValue_showNat_snoc key n hd, parseSize_bad_unit (showNat n) hd hu hud]

/-- The value text of a rendered number is typed back to the number. -/
theorem number_value {k v : Str} (unit : Option Char) (h : (parseI64 v).isSome = true) :
    ValueOk (spellNumber v unit (natOfText v)) ∧
      typeValue k (spellNumber v unit (natOfText v)) = .ok (.number k v) := by
  obtain ⟨i, hi⟩ := Option.isSome_iff_exists.mp h
  have plain : ValueOk v ∧ typeValue k v = .ok (.number k v) :=
    ⟨valueOk_num (numText_of_parse hi), typeValue_number h⟩
  fun_cases spellNumber v unit (natOfText v)
  case case3 u m hu hc =>
    obtain ⟨hv, hmod⟩ := hc
    obtain ⟨_, _, hm, hw, hb, hh⟩ := unit_facts hu
    generalize natOfText v = n at hv hmod
    subst hv
    -- `n` fits in an i64 because its decimal text parses as one
    have hn : (n : Int) ≤ i64Max := by
      rw [parseI64_showNat_eq] at hi
      split at hi
      · assumption
      · cases hi
    have hq : n / m * m = n := Nat.div_mul_cancel (Nat.dvd_of_mod_eq_zero hmod)
    have hlt : n / m * m < 2 ^ 63 := by
      rw [hq]; simp only [i64Max] at hn; omega
    refine ⟨valueOk_showNat_snoc _ hw hb hh.1, ?_⟩
    rw [typeValue_unit hu hlt, hq]
  all_goals exact plain

theorem parseI64_quote_head (r : Str) : parseI64 ('"' :: r) = none := by
  cases h : parseI64 ('"' :: r) with
  | none => rfl
  | some i =>
    obtain ⟨c, r', e, hc⟩ := (numText_of_parse h).head
    cases e
    exact absurd rfl (signDigit_facts hc).2.2.2

/-- An opening quotation mark that is never closed: not a string, number, boolean or size. -/
theorem typeValue_unterminated (key v : Str) (hq : ∀ c ∈ v, c ≠ '"') : typeValue key ('"' :: v) = .err () := by
  have h1 : wildcardMatch quotePat ('"' :: v) = false := by
    cases h : wildcardMatch quotePat ('"' :: v) with
    | false => rfl
    | true =>
      obtain ⟨w, hw⟩ := wildcard_quote_shape h
      have hw' : v = w ++ ['"'] := by simpa [quoted] using hw
      exact absurd rfl (hq '"' (by rw [hw']; simp))
  have h2 := parseI64_quote_head v
  have h4 : parseSize ('"' :: v) = none := by
    rcases List.eq_nil_or_concat v with rfl | ⟨v', l, hv⟩
    · decide
    · rw [List.concat_eq_append] at hv
      rw [hv, ← List.cons_append, parseSize_snoc, List.cons_append, ← hv, h2, parseI64_quote_head]
      simp
  simp [typeValue, h1, h2, parseBool, h4]

theorem innerSlice_of_quote {x : Str} (h : wildcardMatch quotePat x = true) : innerSlice x ≠ none := by
  obtain ⟨v, rfl⟩ := wildcard_quote_shape h
  rw [innerSlice_quoted]
  nofun

theorem typeValue_ne_panic (k v : Str) : typeValue k v ≠ .panic := by
  fun_cases typeValue k v
  case case2 hw hn => exact absurd hn (innerSlice_of_quote hw)
  all_goals nofun

/-- The text before the `{` of the first line of a section-like node, as the line reader and
`classify` see it. -/
structure HdrOk (hdr : Str) (k : Kind) (name : Str) : Prop extends ContentOk hdr where
  classify : classify hdr = .ok (k, name)

theorem hdrOk_section {n : Str} (h : okSectionName n) : HdrOk n .section n :=
  ⟨⟨h.2.1, h.1⟩, by simp [Humphrey.Conf.classify, h.2.2.1, h.2.2.2]⟩

theorem afterFirstSpace_spaced {kw rest : Str} (hk : ∀ x ∈ kw, x ≠ ' ') :
    afterFirstSpace (kw ++ ' ' :: rest) = rest := by
  simp [afterFirstSpace, splitOnce_append hk]

theorem blank_cons_ne {b : Char} {s t : Str} (hb : isBlank b = true) (c : Char) (hc : isBlank c = false) :
    b :: s ≠ c :: t := by
  intro e; cases e; rw [hb] at hc; cases hc

/-- Blanks and a name do not make the `{` that follows a bare `route` or `host`. -/
theorem blanks_append_ne_brace {sep body : Str} (hsep : ∀ x ∈ sep, isBlank x = true)
    (hb : body ≠ ['{']) : sep ++ body ≠ ['{'] := by
  cases sep with
  | nil => exact hb
  | cons b s => exact blank_cons_ne (hsep b List.mem_cons_self) '{' (by decide)

theorem classify_route_of {sn : Str} (hp : routePrefix.isPrefixOf sn = true) (hne : sn ≠ "route {".toList) :
    classify sn = .ok (.route, trim (afterFirstSpace sn)) := by
  rw [Humphrey.Conf.classify, hp, Bool.true_and, if_pos (bne_iff_ne.mpr hne)]

theorem classify_host_of {sn n : Str} (hr : routePrefix.isPrefixOf sn = false)
    (hp : hostPrefix.isPrefixOf sn = true) (hne : sn ≠ "host {".toList)
    (hraw : trim (afterFirstSpace sn) = quoted n) : classify sn = .ok (.host, n) := by
  have h2 : 2 ≤ utf8Len (quoted n) := by
    have := utf8Len_pos (a := '"' :: n) (by simp); rw [utf8Len_quoted]; omega
  rw [Humphrey.Conf.classify, hr, Bool.false_and, if_neg Bool.false_ne_true, hp, Bool.true_and,
    if_pos (bne_iff_ne.mpr hne)]
  simp only [hraw, h2, head?_quoted, getLast?_quoted, innerSlice_quoted, decide_true, beq_self_eq_true,
    Bool.and_self, if_true]

theorem hdrOk_route {sep n : Str} (hsep : ∀ x ∈ sep, isBlank x = true) (h : okRouteName n) :
    HdrOk ("route".toList ++ ' ' :: sep ++ n) .route n := by
  have hne := blanks_append_ne_brace hsep h.2.2
  rw [route_chars]
  refine ⟨(contentOk_of_no_ws (by decide) (by decide)).spaced ⟨h.2.1, h.1⟩ hsep, ?_⟩
  rw [spaced_assoc, classify_route_of (by rw [routePrefix_chars]; rfl)
    (by rw [routeBrace_chars]; simpa using hne), afterFirstSpace_spaced (by decide), trim_lead hsep h.2.1]

theorem hdrOk_host {sep n : Str} (hsep : ∀ x ∈ sep, isBlank x = true) (h : noHashNl n) :
    HdrOk ("host".toList ++ ' ' :: sep ++ quoted n) .host n := by
  have hne := blanks_append_ne_brace (body := quoted n) hsep (by simp [quoted])
  rw [host_chars]
  refine ⟨(contentOk_of_no_ws (by decide) (by decide)).spaced (valueOk_quoted h).toContentOk hsep, ?_⟩
  rw [spaced_assoc]
  exact classify_host_of (by rw [routePrefix_chars]; rfl) (by rw [hostPrefix_chars]; rfl)
    (by rw [hostBrace_chars]; simpa using hne)
    (by rw [afterFirstSpace_spaced (by decide), trim_lead hsep (tight_quoted n)])

theorem quoted_of_ends {raw : Str} (h2 : 2 ≤ utf8Len raw) (hh : raw.head? = some '"')
    (hl : raw.getLast? = some '"') : ∃ v, raw = quoted v := by
  cases raw with
  | nil => simp at hh
  | cons c t =>
    simp at hh; subst hh
    rcases List.eq_nil_or_concat t with rfl | ⟨t', l, ht⟩
    · simp [utf8Len] at h2
      have : ('"' : Char).utf8Size = 1 := by decide
      omega
    · rw [List.concat_eq_append] at ht
      subst ht
      rw [← List.cons_append, List.getLast?_concat] at hl
      cases hl
      exact ⟨t', rfl⟩

theorem classify_ne_panic (sn : Str) : classify sn ≠ .panic := by
  fun_cases classify sn
  case case3 h hn =>
    simp only [Bool.and_eq_true, decide_eq_true_eq, beq_iff_eq] at h
    obtain ⟨v, hv⟩ := quoted_of_ends h.1.1 h.1.2 h.2
    rw [hv, innerSlice_quoted] at hn
    cases hn
  all_goals nofun

end Humphrey.Conf
