import HumphreyModel.Proofs.Base64
import HumphreyModel.Proofs.Base64Regroup

/-! One group of four symbols: what the model's inner loop returns on it, and what the bit-level
decoder makes of the same symbols. -/
namespace Humphrey.Base64

theorem decodeGroup_sym {c : UInt8} {v : Nat} (l : Bool) (i : Nat) (rest : Bytes) (d : Nat)
    (hv : sextet c = some v) :
    decodeGroup l i (c :: rest) d = decodeGroup l (i + 1) rest (d + v * 2 ^ (6 * (3 - i))) := by
  simp [decodeGroup, mem_table_ne_pad (sextet_mem hv), hv]

theorem decodeGroup_pad (l : Bool) (i : Nat) (rest : Bytes) (d : Nat) :
    decodeGroup l i (61 :: rest) d =
      if l && decide (2 ≤ i) && rest.all (· == 61) then some (d, i) else none := by
  simp [decodeGroup]

theorem decodeGroup_cons {l : Bool} {i d : Nat} {c : UInt8} {rest : Bytes} {r : Nat × Nat}
    (h : decodeGroup l i (c :: rest) d = some r) :
    (c = 61 ∧ l = true ∧ 2 ≤ i ∧ (∀ x ∈ rest, x = 61) ∧ r = (d, i)) ∨
    ∃ v, sextet c = some v ∧ decodeGroup l (i + 1) rest (d + v * 2 ^ (6 * (3 - i))) = some r := by
  by_cases hc : c = 61
  · subst hc
    simp [decodeGroup_pad] at h
    exact .inl ⟨rfl, h.1.1.1, h.1.1.2, h.1.2, h.2.symm⟩
  · cases hv : sextet c with
    | none => simp [decodeGroup, hc, hv] at h
    | some v => exact .inr ⟨v, rfl, by rwa [decodeGroup_sym _ _ _ _ hv] at h⟩

theorem decodeGroup_broken (l : Bool) : ∀ (syms : Bytes) (i d d' br : Nat),
    decodeGroup l i syms d = some (d', br) → br = 4 ∨ (2 ≤ br ∧ br < i + syms.length)
  | [], i, d, d', br, h => by simp [decodeGroup] at h; exact .inl h.2.symm
  | c :: rest, i, d, d', br, h => by
    rcases decodeGroup_cons h with ⟨-, -, h2, -, hr⟩ | ⟨v, -, h⟩
    · cases hr
      exact .inr ⟨h2, by simp⟩
    · rcases decodeGroup_broken l rest _ _ _ _ h with h4 | h2
      · exact .inl h4
      · exact .inr ⟨h2.1, by simp; omega⟩

theorem decodeGroup_full {a b c d : UInt8} {va vb vc vd : Nat} (l : Bool) (ha : sextet a = some va)
    (hb : sextet b = some vb) (hc : sextet c = some vc) (hd : sextet d = some vd) :
    decodeGroup l 0 [a, b, c, d] 0 = some (va * 262144 + vb * 4096 + vc * 64 + vd, 4) := by
  rw [decodeGroup_sym _ _ _ _ ha, decodeGroup_sym _ _ _ _ hb, decodeGroup_sym _ _ _ _ hc,
    decodeGroup_sym _ _ _ _ hd]
  simp [decodeGroup]

theorem decodeGroup_pad1 {a b c : UInt8} {va vb vc : Nat} (ha : sextet a = some va)
    (hb : sextet b = some vb) (hc : sextet c = some vc) :
    decodeGroup true 0 [a, b, c, 61] 0 = some (va * 262144 + vb * 4096 + vc * 64, 3) := by
  rw [decodeGroup_sym _ _ _ _ ha, decodeGroup_sym _ _ _ _ hb, decodeGroup_sym _ _ _ _ hc,
    decodeGroup_pad]
  simp

theorem decodeGroup_pad2 {a b : UInt8} {va vb : Nat} (ha : sextet a = some va)
    (hb : sextet b = some vb) :
    decodeGroup true 0 [a, b, 61, 61] 0 = some (va * 262144 + vb * 4096, 2) := by
  rw [decodeGroup_sym _ _ _ _ ha, decodeGroup_sym _ _ _ _ hb, decodeGroup_pad]
  simp

/-- The groups of four symbols the inner loop accepts. -/
theorem decodeGroup_four {l : Bool} {a b c d : UInt8} {r : Nat × Nat}
    (h : decodeGroup l 0 [a, b, c, d] 0 = some r) :
    ∃ va vb, sextet a = some va ∧ sextet b = some vb ∧
      ((∃ vc vd, sextet c = some vc ∧ sextet d = some vd) ∨
       (∃ vc, sextet c = some vc ∧ d = 61 ∧ l = true) ∨ (c = 61 ∧ d = 61 ∧ l = true)) := by
  rcases decodeGroup_cons h with ⟨-, -, h2, -⟩ | ⟨va, sa, h⟩
  · omega
  rcases decodeGroup_cons h with ⟨-, -, h2, -⟩ | ⟨vb, sb, h⟩
  · omega
  refine ⟨va, vb, sa, sb, ?_⟩
  rcases decodeGroup_cons h with ⟨rfl, hl, -, hall, -⟩ | ⟨vc, sc, h⟩
  · exact .inr (.inr ⟨rfl, hall d (by simp), hl⟩)
  rcases decodeGroup_cons h with ⟨rfl, hl, -⟩ | ⟨vd, sd, -⟩
  · exact .inr (.inl ⟨vc, sc, rfl, hl⟩)
  · exact .inl ⟨vc, vd, sc, sd⟩

/-- `&to_be_bytes()[1..br]` is in range for every `br` the inner loop can produce. -/
theorem slice1_beBytes {br : Nat} (d : Nat) (h1 : 1 ≤ br) (h4 : br ≤ 4) :
    slice1 (beBytes d) br = some (((beBytes d).take br).drop 1) := by
  simp [slice1, beBytes, h1, h4]

def bytesOf (l : List Bool) : Bytes :=
  (Spec.eights l).map (fun g => UInt8.ofNat (Spec.bitsToNat g))

theorem bytesOf_octet (n : Nat) (r : List Bool) :
    bytesOf (bits 8 n ++ r) = UInt8.ofNat (n % 256) :: bytesOf r := by
  rw [bytesOf, eights_append (length_bits ..), List.map_cons, bitsToNat_eq, bitsVal_bits, bytesOf]

theorem bytesOf_short {l : List Bool} (h : l.length < 8) : bytesOf l = [] := by
  rw [bytesOf, eights_short h, List.map_nil]

/-- The bit string the bit-level decoder regroups by 8: the sextets of the symbols before the padding. -/
def specBits (s : Bytes) : List Bool :=
  (s.takeWhile (· != Spec.pad)).flatMap (fun c => Spec.bitsOfSextet (Spec.table.idxOf c))

theorem spec_decode_eq (s : Bytes) : Spec.decode s = bytesOf (specBits s) := rfl

theorem specBits_sym {c : UInt8} {v : Nat} (h : sextet c = some v) (s : Bytes) :
    specBits (c :: s) = bits 6 v ++ specBits s := by
  obtain ⟨hm, rfl⟩ := sextet_some_iff.mp h
  simp [specBits, Spec.pad, mem_table_ne_pad hm, bitsOfSextet_eq]

theorem specBits_pad (s : Bytes) : specBits (61 :: s) = [] := by
  simp [specBits, Spec.pad]

theorem octets_value (D : Nat) :
    D / 65536 % 256 * 65536 + (D / 256 % 256 * 256 + D % 256) = D % 16777216 := by
  have h1 : D % (65536 * 256) = D % 65536 + 65536 * (D / 65536 % 256) := Nat.mod_mul
  have h2 : D % (256 * 256) = D % 256 + 256 * (D / 256 % 256) := Nat.mod_mul
  rw [show (16777216 : Nat) = 65536 * 256 from rfl, h1, show (65536 : Nat) = 256 * 256 from rfl, h2]
  simp only [Nat.reduceMul, Nat.mul_comm, Nat.add_comm, Nat.add_left_comm]

/-- Four sextets, regrouped, are the three low octets of the number the inner loop accumulates:
both sides are 24 bits long and denote the same number. -/
theorem spec_decode_full {a b c d : UInt8} {va vb vc vd : Nat} (ha : sextet a = some va)
    (hb : sextet b = some vb) (hc : sextet c = some vc) (hd : sextet d = some vd) (rest : Bytes) :
    Spec.decode (a :: b :: c :: d :: rest) =
      ((beBytes (va * 262144 + vb * 4096 + vc * 64 + vd)).take 4).drop 1 ++ Spec.decode rest := by
  have lb := sextet_lt hb
  have lc := sextet_lt hc
  have ld := sextet_lt hd
  generalize hD : va * 262144 + vb * 4096 + vc * 64 + vd = D
  replace hD := hD.symm
  have e : bits 6 va ++ (bits 6 vb ++ (bits 6 vc ++ bits 6 vd)) =
      bits 8 (D / 65536) ++ (bits 8 (D / 256) ++ bits 8 D) := by
    refine bitsVal_inj (by simp) ?_
    simp
    rw [octets_value, Nat.mod_eq_of_lt lb, Nat.mod_eq_of_lt lc, Nat.mod_eq_of_lt ld]
    grind
  have e' := congrArg (· ++ specBits rest) e
  simp only [List.append_assoc] at e'
  rw [spec_decode_eq, specBits_sym ha, specBits_sym hb, specBits_sym hc, specBits_sym hd, e',
    bytesOf_octet, bytesOf_octet, bytesOf_octet, spec_decode_eq]
  rfl

theorem spec_decode_pad1 {a b c : UInt8} {va vb vc : Nat} (ha : sextet a = some va)
    (hb : sextet b = some vb) (hc : sextet c = some vc) :
    Spec.decode [a, b, c, 61] = ((beBytes (va * 262144 + vb * 4096 + vc * 64)).take 3).drop 1 := by
  have lb := sextet_lt hb
  have lc := sextet_lt hc
  generalize hD : va * 262144 + vb * 4096 + vc * 64 = D
  replace hD := hD.symm
  have e : bits 6 va ++ (bits 6 vb ++ bits 6 vc) =
      bits 8 (D / 65536) ++ (bits 8 (D / 256) ++ bits 2 vc) := by
    have h1 : D / 65536 = va * 4 + vb / 16 := by grind
    have h2 : D / 256 = va * 1024 + vb * 16 + vc / 4 := by grind
    refine bitsVal_inj (by simp) ?_
    simp
    rw [h1, h2]
    clear h1 h2 hD
    grind
  rw [spec_decode_eq, specBits_sym ha, specBits_sym hb, specBits_sym hc, specBits_pad,
    List.append_nil, e, bytesOf_octet, bytesOf_octet, bytesOf_short (by simp)]
  rfl

theorem spec_decode_pad2 {a b : UInt8} {va vb : Nat} (ha : sextet a = some va)
    (hb : sextet b = some vb) :
    Spec.decode [a, b, 61, 61] = ((beBytes (va * 262144 + vb * 4096)).take 2).drop 1 := by
  have lb := sextet_lt hb
  generalize hD : va * 262144 + vb * 4096 = D
  replace hD := hD.symm
  have e : bits 6 va ++ bits 6 vb = bits 8 (D / 65536) ++ bits 4 vb := by
    refine bitsVal_inj (by simp) ?_
    simp
    grind
  rw [spec_decode_eq, specBits_sym ha, specBits_sym hb, specBits_pad, List.append_nil, e,
    bytesOf_octet, bytesOf_short (by simp)]
  rfl

end Humphrey.Base64
