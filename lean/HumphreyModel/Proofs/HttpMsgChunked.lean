import HumphreyModel.Proofs.HttpMsgParse
import HumphreyModel.Spec.Chunked
/-
`parseChunk` / `parseChunks` on a chunked body rendered by `Spec.renderChunkedBody`, and what the
header list of a chunked message looks like to `parseBody`.
-/
namespace Humphrey.Http
open Humphrey Humphrey.Bytes Humphrey.IO

theorem hexDigit_facts (b : UInt8) (h : (hexDigitVal b).isSome = true) :
    b ≠ 9 ∧ b ≠ 10 ∧ b ≠ 11 ∧ b ≠ 12 ∧ b ≠ 13 ∧ b ≠ 32 ∧ b ≠ 43 ∧ b < 128 := by
  unfold hexDigitVal at h
  simp only [ne_eq, ← UInt8.toNat_inj, UInt8.lt_iff_toNat_lt, UInt8.le_iff_toNat_le, UInt8.toNat_ofNat] at h ⊢
  split at h
  · omega
  · split at h
    · omega
    · split at h
      · omega
      · cases h

theorem hexValue_digits (ds : Bytes) (acc v : Nat) (h : hexValue ds acc = some v) :
    ∀ b ∈ ds, (hexDigitVal b).isSome = true := by
  induction ds generalizing acc with
  | nil => simp
  | cons x xs ih =>
    simp only [hexValue] at h
    cases hx : hexDigitVal x with
    | none => simp [hx] at h
    | some d =>
      simp only [hx] at h
      intro b hb
      rcases List.mem_cons.mp hb with rfl | hb
      · simp [hx]
      · exact ih _ h b hb

/-- Every white-space character ends in an ASCII white-space byte or in a byte from 128 up. -/
theorem wsSeqs_last : ∀ w ∈ wsSeqs,
    w.reverse.head?.any (fun y => y ∈ [9, 10, 11, 12, 13, 32] ∨ 128 ≤ y) = true := by decide

/-- So `trim_end` stops at any other ASCII byte. -/
theorem wsSuffixLenRev_eq_zero (x : UInt8) (r : Bytes) (hx : x < 128) (hn : x ∉ [9, 10, 11, 12, 13, 32]) :
    wsSuffixLenRev (x :: r) = 0 := by
  unfold wsSuffixLenRev
  rw [List.find?_eq_none.mpr]
  intro w hw hp
  have hl := wsSeqs_last w hw
  cases hr : w.reverse with
  | nil => rw [hr] at hl; cases hl
  | cons y ys =>
    rw [hr] at hl hp
    simp only [List.isPrefixOf, Bool.and_eq_true, beq_iff_eq] at hp
    obtain ⟨rfl, _⟩ := hp
    rcases of_decide_eq_true hl with hl | hl
    · exact hn hl
    · exact absurd hx (UInt8.not_lt.mpr hl)

/-- `trim_end` of a size line removes exactly the CRLF. -/
theorem trimEnd_hex_crlf (hex : Bytes) (hne : hex ≠ []) (hd : ∀ b ∈ hex, (hexDigitVal b).isSome = true) :
    trimEnd (hex ++ [13, 10]) = hex := by
  -- `trimEnd` works on the reversed line: LF, CR, then the last hex digit `y`, where it stops (`w1`, `w2`, `w0`)
  obtain ⟨y, ys, hr⟩ : ∃ y ys, hex.reverse = y :: ys := by
    cases h : hex.reverse with
    | nil => exact absurd (List.reverse_eq_nil_iff.mp h) hne
    | cons y ys => exact ⟨y, ys, rfl⟩
  obtain ⟨h9, h10, h11, h12, h13, h32, -, hascii⟩ :=
    hexDigit_facts y (hd y (List.mem_reverse.mp (by rw [hr]; exact List.mem_cons_self)))
  have w0 : wsSuffixLenRev (y :: ys) = 0 :=
    wsSuffixLenRev_eq_zero y ys hascii (by simp [h9, h10, h11, h12, h13, h32])
  have w1 : ∀ r : Bytes, wsSuffixLenRev (10 :: r) = 1 := by
    intro r; simp [wsSuffixLenRev, wsSeqs, List.find?, List.isPrefixOf]
  have w2 : ∀ r : Bytes, wsSuffixLenRev (13 :: r) = 1 := by
    intro r; simp [wsSuffixLenRev, wsSeqs, List.find?, List.isPrefixOf]
  have hl : hex.length = ys.length + 1 := by
    have := congrArg List.length hr; simpa using this
  simp only [trimEnd, List.length_append, hl, List.length_cons, List.length_nil, List.reverse_append,
    hr, List.reverse_cons, List.reverse_nil, List.nil_append, List.cons_append]
  simp only [trimEndAux, w0, w1, w2, List.drop_succ_cons, List.drop_zero]
  rw [← hr, List.reverse_reverse]

/-- The size line of a chunk as `parse_chunk` sees it: `read_until(b'\n')`, the UTF-8 check,
`trim_end`, `usize::from_str_radix(_, 16)`. -/
theorem chunk_size_line (hex t : Bytes) (n : Nat) (hs : Spec.HexSpells hex n) (hn : n < 18446744073709551616) :
    flatReadUntil 10 (hex ++ 13 :: 10 :: t) = (hex ++ [13, 10], t) ∧
    utf8Valid (hex ++ [13, 10]) = true ∧ parseHexUsize (trimEnd (hex ++ [13, 10])) = some n := by
  obtain ⟨h0, hv⟩ := hs
  have hd := hexValue_digits hex 0 _ hv
  refine ⟨flatReadUntil_line _ _ (fun b hb => (hexDigit_facts b (hd b hb)).2.1), utf8Valid_ascii ?_, ?_⟩
  · intro b hb
    simp only [List.mem_append, List.mem_cons, List.not_mem_nil, or_false] at hb
    rcases hb with hb | rfl | rfl
    · exact (hexDigit_facts b (hd b hb)).2.2.2.2.2.2.2
    · decide
    · decide
  · rw [trimEnd_hex_crlf hex h0 hd]
    cases hh : hex with
    | nil => exact absurd hh h0
    | cons x xs =>
      have hx : x ≠ 43 := (hexDigit_facts x (hd x (by simp [hh]))).2.2.2.2.2.2.1
      rw [hh] at hv
      unfold parseHexUsize
      split
      · rename_i heq; simp at heq; exact absurd heq.1 hx
      · simp [hv, hn]

theorem parseChunk_render (hex data t : Bytes) (hs : Spec.HexSpells hex data.length) (hne : data ≠ [])
    (hlen : data.length < 18446744073709551616) :
    parseChunk flatSource (Spec.renderChunk hex data ++ t) = .ok (some data, t) := by
  obtain ⟨hr, hu, hp⟩ := chunk_size_line hex (data ++ 13 :: 10 :: t) _ hs hlen
  obtain ⟨k, hk⟩ : ∃ k, data.length = k + 1 := by
    cases data with
    | nil => exact absurd rfl hne
    | cons a as => exact ⟨as.length, rfl⟩
  have e1 : flatReadExact (k + 1) (data ++ 13 :: 10 :: t) = some (data, 13 :: 10 :: t) :=
    hk ▸ flatReadExact_append data _
  simp only [Spec.renderChunk, List.append_assoc, List.cons_append, List.nil_append, parseChunk, flatSource,
    LF, hr, hu, hp, hk, e1, Bool.not_true, Bool.false_eq_true, if_false]
  simp [flatReadExact]

theorem parseChunk_last (last t : Bytes) (hs : Spec.HexSpells last 0) :
    parseChunk flatSource (last ++ 13 :: 10 :: 13 :: 10 :: t) = .ok (none, t) := by
  obtain ⟨hr, hu, hp⟩ := chunk_size_line last (13 :: 10 :: t) 0 hs (by omega)
  simp [parseChunk, flatSource, LF, hr, hu, hp, flatReadExact]

theorem parseChunks_render (parts : List (Bytes × Bytes)) (last t : Bytes)
    (hparts : ∀ p ∈ parts, Spec.HexSpells p.1 p.2.length ∧ p.2 ≠ [] ∧ p.2.length < 18446744073709551616)
    (hlast : Spec.HexSpells last 0) (fuel : Nat) (hf : parts.length < fuel) (acc : Bytes) :
    parseChunks flatSource fuel (Spec.renderChunkedBody parts last ++ t) acc =
      .ok (acc ++ (parts.map (·.2)).flatten, t) := by
  induction parts generalizing fuel acc with
  | nil =>
    cases fuel with
    | zero => simp at hf
    | succ fuel =>
      have := parseChunk_last last t hlast
      simp only [Spec.renderChunkedBody, List.flatMap_nil, List.nil_append, List.append_assoc,
        List.cons_append] at this ⊢
      simp [parseChunks, this]
  | cons p ps ih =>
    cases fuel with
    | zero => simp at hf
    | succ fuel =>
      obtain ⟨h1, h2, h3⟩ := hparts p (by simp)
      have e : Spec.renderChunkedBody (p :: ps) last ++ t =
          Spec.renderChunk p.1 p.2 ++ (Spec.renderChunkedBody ps last ++ t) := by
        simp [Spec.renderChunkedBody, List.append_assoc]
      rw [e, parseChunks, parseChunk_render p.1 p.2 _ h1 h2 h3]
      simp only
      rw [ih (fun q hq => hparts q (by simp [hq])) fuel (by simpa using hf)]
      simp

theorem length_lt_renderChunkedBody (parts : List (Bytes × Bytes)) (last : Bytes) :
    parts.length < (Spec.renderChunkedBody parts last).length := by
  simp only [Spec.renderChunkedBody, List.length_append, List.length_cons, List.length_nil]
  have : parts.length ≤ (parts.flatMap (fun p => Spec.renderChunk p.1 p.2)).length := by
    induction parts with
    | nil => simp
    | cons p ps ih =>
      have h1 : 1 ≤ (Spec.renderChunk p.1 p.2).length := by simp [Spec.renderChunk]; omega
      simp only [List.flatMap_cons, List.length_append, List.length_cons]
      omega
  omega

/-- The chunked branch of `parseBody`: the body is the concatenated chunk data, and the length
replaces `Transfer-Encoding`. -/
theorem parseBody_chunked (code : Nat) (hs : Headers) (parts : List (Bytes × Bytes)) (last t : Bytes)
    (hte : hs.get hTransferEncoding = some chunkedValue)
    (hparts : ∀ p ∈ parts, Spec.HexSpells p.1 p.2.length ∧ p.2 ≠ [] ∧ p.2.length < 18446744073709551616)
    (hlast : Spec.HexSpells last 0) :
    parseBody flatSource code hs (Spec.renderChunkedBody parts last ++ t) =
      .ok ((hs.remove hTransferEncoding ++
          [⟨hContentLength, natToBytes (parts.map (·.2)).flatten.length⟩], (parts.map (·.2)).flatten), t) := by
  have hc := parseChunks_render parts last t hparts hlast
    ((Spec.renderChunkedBody parts last ++ t).length + 1)
    (by have := length_lt_renderChunkedBody parts last; simp only [List.length_append]; omega) []
  simp only [flatSource] at hc
  simp only [parseBody, hte, if_true, flatSource, hc, List.nil_append]

theorem get_none_of_names (hs : Headers) (n : HName) (h : ∀ x ∈ hs, x.name ≠ n) : hs.get n = none := by
  simp only [Headers.get, Option.map_eq_none_iff, List.find?_eq_none, decide_eq_true_eq]
  exact h

theorem remove_of_names (hs : Headers) (n : HName) (h : ∀ x ∈ hs, x.name ≠ n) : hs.remove n = hs := by
  simp only [Headers.remove, List.filter_eq_self, decide_eq_true_eq]
  exact h

theorem get_append_cons (hs₁ hs₂ : Headers) (x : Header) (h : ∀ y ∈ hs₁, y.name ≠ x.name) :
    (hs₁ ++ x :: hs₂).get x.name = some x.value := by
  have := get_none_of_names hs₁ x.name h
  simp only [Headers.get, Option.map_eq_none_iff] at this
  simp [Headers.get, List.find?_append, this]

theorem remove_append_cons (hs₁ hs₂ : Headers) (x : Header) (h : ∀ y ∈ hs₁ ++ hs₂, y.name ≠ x.name) :
    (hs₁ ++ x :: hs₂).remove x.name = hs₁ ++ hs₂ := by
  have r1 := remove_of_names hs₁ x.name (fun y hy => h y (by simp [hy]))
  have r2 := remove_of_names hs₂ x.name (fun y hy => h y (by simp [hy]))
  simp only [Headers.remove] at r1 r2 ⊢
  rw [List.filter_append, List.filter_cons, r1, r2]
  simp

def teHeader : Header := ⟨hTransferEncoding, chunkedValue⟩

theorem te_header_ok : teHeader.WF ∧ utf8Valid (headerLine teHeader ++ [13, 10]) = true ∧
    wsPrefixLen teHeader.value = 0 :=
  ⟨⟨HName.wf_known hTransferEncoding (by decide), by decide, by intro b t e; cases e; decide⟩,
    by decide, by decide⟩

end Humphrey.Http
