import HumphreyModel.Proofs.WsMsgLoop

/-!
Everything written after the handshake is a sequence of unmasked frames — for ANY inbound bytes (also
garbage) and any sequence of calls.
-/

namespace Humphrey.WsMsg
open Humphrey.WsFrame Humphrey.WsFrame.Spec Humphrey.WsMsg.Spec

/-- `post` extends `pre` by the layouts of frames of the form `reply opcode payload` (FIN set, RSV
clear, not masked, length field = payload length). -/
def FrameWrites (pre post : List Bytes) : Prop :=
  ∃ fs : List Frame, (∀ f ∈ fs, ∃ o p, f = reply o p) ∧ post = pre ++ fs.map rfc6455Layout

theorem FrameWrites.refl (a : List Bytes) : FrameWrites a a := ⟨[], by simp, by simp⟩

theorem FrameWrites.of_eq {a b : List Bytes} (h : b = a) : FrameWrites a b := by
  subst h; exact .refl _

theorem FrameWrites.trans {a b c : List Bytes} (h1 : FrameWrites a b) (h2 : FrameWrites b c) :
    FrameWrites a c := by
  obtain ⟨f1, w1, e1⟩ := h1
  obtain ⟨f2, w2, e2⟩ := h2
  refine ⟨f1 ++ f2, ?_, by rw [e2, e1]; simp⟩
  intro f hf
  rcases List.mem_append.mp hf with h | h
  · exact w1 f h
  · exact w2 f h

theorem FrameWrites.write (c : Conn) (o : Opcode) (p : Bytes) :
    FrameWrites c.outbound (c.write (encodeFrame (Frame.new o p))).outbound :=
  ⟨[reply o p], by intro f hf; exact ⟨o, p, by simpa using hf⟩, write_reply_outbound c o p⟩

/-- An iteration writes frames if what follows it does. -/
theorem iter_writes (c : Conn) (acc : List Frame)
    {cont : Frame → Conn → List Frame → Result × Conn}
    (hcont : ∀ f c1 acc1, FrameWrites c1.outbound (cont f c1 acc1).2.outbound) :
    FrameWrites c.outbound (iter c acc cont).2.outbound := by
  unfold iter
  cases readFrame c.inbound with
  | error e => exact .refl _
  | ok p =>
    rcases onFrame_cases { c with inbound := p.2 } acc p.1 with
      ⟨_, e⟩ | ⟨_, e⟩ | ⟨_, e⟩ | ⟨_, _, _, e⟩ <;> simp only [e]
    · exact (FrameWrites.write _ _ _).trans (hcont _ _ _)
    · exact hcont _ _ _
    · exact .write _ _ _
    · exact hcont _ _ _

theorem recvLoopNb_writes (fuel : Nat) : ∀ (c : Conn) (acc : List Frame) (isFirst : Bool),
    FrameWrites c.outbound (recvLoopNb fuel c acc isFirst).2.outbound := by
  induction fuel with
  | zero => intro c acc isFirst; exact .refl _
  | succ k ih =>
    intro c acc isFirst
    by_cases hwm : wantMore acc = true
    · cases isFirst with
      | true =>
        rcases recvLoopNb_succ_true k c hwm with ⟨s, _, e⟩ | e <;> rw [e]
        · exact .refl _
        · exact iter_writes c acc (fun _ c1 acc1 => ih c1 acc1 _)
      | false =>
        rw [recvLoopNb_succ_false, if_pos hwm]
        exact iter_writes c acc (fun _ c1 acc1 => ih c1 acc1 _)
    · rw [recvLoopNb_full _ _ _ hwm, recvLoop_succ, if_neg hwm]
      exact .refl _

theorem noteClosed_outbound (p : Result × Conn) : (noteClosed p).2.outbound = p.2.outbound := by
  unfold noteClosed; split <;> rfl

theorem recvNonblocking_writes (c : Conn) :
    FrameWrites c.outbound (recvNonblocking c).2.outbound := by
  unfold recvNonblocking; rw [noteClosed_outbound]; exact recvLoopNb_writes _ _ _ _

theorem recvBlocking_writes (c : Conn) : FrameWrites c.outbound (recvBlocking c).2.outbound := by
  unfold recvBlocking; rw [noteClosed_outbound, ← recvLoopNb_notFirst]; exact recvLoopNb_writes _ _ _ _

theorem apply_writes (c : Conn) (o : Op) : FrameWrites c.outbound (c.apply o).outbound := by
  cases o with
  | recv => exact recvBlocking_writes c
  | recvNonblocking => exact recvNonblocking_writes c
  | ping => exact .write _ _ _
  | send t p =>
    have : c.apply (.send t p) = c.write (encodeFrame (Frame.new (if t then .text else .binary) p)) := by
      cases t <;> rfl
    rw [this]
    exact .write _ _ _

theorem dropStream_writes (c : Conn) : FrameWrites c.outbound (dropStream c).outbound := by
  unfold dropStream; split
  · exact .refl _
  · exact .write _ _ _

theorem foldl_apply_writes (ops : List Op) : ∀ c : Conn,
    FrameWrites c.outbound (ops.foldl Conn.apply c).outbound := by
  induction ops with
  | nil => intro c; exact .refl _
  | cons o os ih => intro c; exact (apply_writes c o).trans (ih _)

end Humphrey.WsMsg
