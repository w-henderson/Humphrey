import HumphreyModel.Proofs.Auth
import HumphreyModel.Proofs.AuthSpec
/-!
The simulation relation between the `Vec<User>` database and the abstract token / password maps, and what
follows from it alone: a token lookup finds the same in both worlds, a user owns at most one token, and
rewriting one user's session keeps the relation.
-/
namespace Humphrey.Auth
set_option linter.unusedSectionVars false -- the sections' `DecidableEq` instances are not needed by every lemma

section
variable {U T H P S Pep : Type} [DecidableEq U] [DecidableEq T] [DecidableEq P]

/-- `Rel hs cfg db a`: the database `db` represents the abstract state `a`.
* uids are pairwise distinct;
* user `u` stores session `(t, e)` exactly when the token map sends `t` to `(u, e)`
  (so the token map is `absSess db`, see `Rel.absSess_eq`, and no two users share a token);
* `pw u` is the password `u`'s stored hash was made from (with the configured pepper);
* everything in the maps has been drawn. -/
structure Rel (hs : HashScheme P S Pep H) (cfg : Config Pep) (db : Db U T H) (a : Spec.State U T P) :
    Prop where
  uids : UidsDistinct db
  sess : ∀ u t e, sessOf db u = some (t, e) ↔ a.sess t = some (u, e)
  pwNone : ∀ u, a.pw u = none → getUserByUid db u = none
  pwSome : ∀ u p, a.pw u = some p →
    ∃ x salt, getUserByUid db u = some x ∧ x.pwHash = hs.hash p salt cfg.pepper
  drawnT : ∀ t u e, a.sess t = some (u, e) → t ∈ a.drawnToks
  drawnU : ∀ u p, a.pw u = some p → u ∈ a.drawnUids

/-- The token map read off the database: the first user holding `t`, with the expiry stored there. -/
def absSess (db : Db U T H) (t : T) : Option (U × Nat) :=
  match getUserByToken db t with
  | some x => match x.session with
    | some (_, e) => some (x.uid, e)
    | none => none
  | none => none

variable {hs : HashScheme P S Pep H} {cfg : Config Pep} {db : Db U T H} {a : Spec.State U T P}

theorem Rel.lookupTok (hr : Rel hs cfg db a) (t : T) :
    (getUserByToken db t = none ∧ a.sess t = none) ∨
    (∃ x e, getUserByToken db t = some x ∧ x.session = some (t, e) ∧ a.sess t = some (x.uid, e) ∧
      getUserByUid db x.uid = some x) := by
  cases h : getUserByToken db t with
  | none =>
    refine .inl ⟨rfl, ?_⟩
    cases hs' : a.sess t with
    | none => rfl
    | some ue =>
      obtain ⟨u, e⟩ := ue
      obtain ⟨x, hx, hxs⟩ := Option.bind_eq_some_iff.mp ((hr.sess u t e).mpr hs')
      exact absurd hxs (getUserByToken_none h x (getUserByUid_some hx).1 e)
  | some x =>
    obtain ⟨hmem, e, he⟩ := getUserByToken_some h
    have hx := getUserByUid_of_mem hr.uids hmem
    exact .inr ⟨x, e, rfl, he, (hr.sess x.uid t e).mp (by rw [sessOf_eq hx, he]), hx⟩

/-- The functional half of the refinement: the token map *is* `absSess db`. -/
theorem Rel.absSess_eq (hr : Rel hs cfg db a) (t : T) : absSess db t = a.sess t := by
  unfold absSess
  rcases hr.lookupTok t with ⟨h1, h2⟩ | ⟨x, e, h1, h2, h3, _⟩
  · simp [h1, h2]
  · simp [h1, h2, h3]

theorem Rel.sess_unique (hr : Rel hs cfg db a) {u : U} {t1 t2 : T} {e1 e2 : Nat}
    (h1 : a.sess t1 = some (u, e1)) (h2 : a.sess t2 = some (u, e2)) : t1 = t2 ∧ e1 = e2 := by
  simpa using ((hr.sess u t1 e1).mpr h1).symm.trans ((hr.sess u t2 e2).mpr h2)

/-- So forgetting every token of the owner of `t` forgets `t` and nothing else. -/
theorem Rel.drop_owner (hr : Rel hs cfg db a) {t : T} {u : U} {e : Nat} (h : a.sess t = some (u, e)) :
    Spec.dropSessionsOf a u = Spec.upd a.sess t none := by
  funext t'
  by_cases ht : t' = t
  · rw [ht, Spec.upd_self]
    simp [Spec.dropSessionsOf, h]
  · rw [Spec.upd_ne _ _ ht]
    exact Spec.dropSessionsOf_of_not_owner fun e h' => ht (hr.sess_unique h' h).1

theorem Rel.mono (hr : Rel hs cfg db a) {dU : List U} {dT : List T} (hU : ∀ u ∈ a.drawnUids, u ∈ dU)
    (hT : ∀ t ∈ a.drawnToks, t ∈ dT) : Rel hs cfg db { a with drawnUids := dU, drawnToks := dT } :=
  { hr with drawnT := fun t u e h => hT t (hr.drawnT t u e h), drawnU := fun u p h => hU u (hr.drawnU u p h) }

/-- Writing a new session `s` for an existing user `u`: `update_user` succeeds and the result represents the
abstract state with any token map that is the old one with `u`'s entry replaced by `s`. -/
theorem Rel.setSession (hr : Rel hs cfg db a) {x : User U T H} {u : U} (hx : getUserByUid db u = some x)
    (s : Option (T × Nat)) (sess' : T → Option (U × Nat))
    (hsess : ∀ t u' e, sess' t = some (u', e) ↔ if u' = u then s = some (t, e) else a.sess t = some (u', e))
    (hT : ∀ t e, s = some (t, e) → t ∈ a.drawnToks) :
    ∃ db', updateUser db { x with session := s } = .ok db' ∧ Rel hs cfg db' { a with sess := sess' } := by
  have hxu : x.uid = u := (getUserByUid_some hx).2
  obtain ⟨db', hup, hget, hmap⟩ := updateUser_spec db { x with session := s } (by simp [hxu, hx])
  simp only [hxu] at hget
  refine ⟨db', hup, {
    uids := uidsDistinct_of_map_eq hmap hr.uids
    sess := fun u' t e => ?sess
    pwNone := fun u' h => ?pwNone
    pwSome := fun u' p h => ?pwSome
    drawnT := fun t u' e h => ?drawnT
    drawnU := hr.drawnU }⟩
  case sess =>
    rw [hsess, sessOf, hget]
    by_cases hu : u' = u
    · simp [hu]
    · simp only [hu, if_false]; exact hr.sess u' t e
  case pwNone =>
    have := hr.pwNone u' h
    have hu : u' ≠ u := fun hu => by rw [hu, hx] at this; cases this
    rw [hget, if_neg hu]; exact this
  case pwSome =>
    obtain ⟨y, salt, hy, hh⟩ := hr.pwSome u' p h
    rw [hget]
    by_cases hu : u' = u
    · rw [hu, hx] at hy
      cases hy
      exact ⟨_, salt, if_pos hu, hh⟩
    · exact ⟨y, salt, by rw [if_neg hu]; exact hy, hh⟩
  case drawnT =>
    have := (hsess t u' e).mp h
    by_cases hu : u' = u
    · exact hT t e (by simpa [hu] using this)
    · exact hr.drawnT t u' e (by simpa [hu] using this)

/-- `user.session = None` for an existing user forgets that user's tokens. -/
theorem Rel.clearSession (hr : Rel hs cfg db a) {x : User U T H} {u : U} (hx : getUserByUid db u = some x) :
    ∃ db', updateUser db { x with session := none } = .ok db' ∧
      Rel hs cfg db' { a with sess := Spec.dropSessionsOf a u } :=
  hr.setSession hx none _
    (fun t u' e => by
      rw [Spec.dropSessionsOf_eq_some]
      by_cases hu : u' = u <;> simp [hu])
    (fun _ _ h => nomatch h)

/-- `user.session = Some(Session { t, e })` for an existing user, `t` drawn and held by nobody else: that user's
tokens are forgotten and `t` now maps to the user. -/
theorem Rel.writeSession (hr : Rel hs cfg db a) {x : User U T H} {u : U} (hx : getUserByUid db u = some x)
    (t : T) (e : Nat) (ht : t ∈ a.drawnToks) (hown : ∀ u' e', a.sess t = some (u', e') → u' = u) :
    ∃ db', updateUser db { x with session := some (t, e) } = .ok db' ∧
      Rel hs cfg db' { a with sess := Spec.upd (Spec.dropSessionsOf a u) t (some (u, e)) } :=
  hr.setSession hx (some (t, e)) _
    (fun t' u' e' => by
      rw [Spec.upd_eq_iff, Spec.dropSessionsOf_eq_some]
      by_cases hu : u' = u
      · simp [hu, eq_comm]
      · have : a.sess t' = some (u', e') → t' ≠ t := fun h ht' => hu (hown u' e' (ht' ▸ h))
        simpa [hu, Ne.symm hu] using this)
    (fun _ _ h => by cases h; exact ht)

theorem Rel.hasLive_eq (hr : Rel hs cfg db a) {x : User U T H} {u : U}
    (hx : getUserByUid db u = some x) (now : Nat) :
    Spec.hasLive a now u = hasValidSession now x := by
  rw [Bool.eq_iff_iff]
  unfold Spec.hasLive hasValidSession
  simp only [List.any_eq_true, decide_eq_true_eq, Spec.live_eq_some]
  constructor
  · rintro ⟨t, _, e, hs', hlt⟩
    rw [← sessOf_eq hx, (hr.sess u t e).mpr hs']
    simpa [sessionValid] using hlt
  · intro h
    cases hs' : x.session with
    | none => simp [hs'] at h
    | some te =>
      obtain ⟨t, e⟩ := te
      have h1 := (hr.sess u t e).mp (by rw [sessOf_eq hx, hs'])
      exact ⟨t, hr.drawnT t u e h1, e, h1, by simpa [hs', sessionValid] using h⟩

end
end Humphrey.Auth
