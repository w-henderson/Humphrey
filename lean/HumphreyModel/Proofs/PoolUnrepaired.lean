import HumphreyModel.Proofs.PoolBasic

/-!
C08: the code before the repair. `Drop` joins the recovery thread, which cannot end: once the caller is there it stays there.
-/
namespace Humphrey.Pool

/-- The unrepaired code differs from the repaired one only in what `Drop` does with the recovery thread's handle. -/
theorem stepU_eq_step {c : Cfg} {s : State} {l : Label} (hj : l ≠ .dropJoinRecovery) (hd : l ≠ .dropDetachRecovery) :
    stepU c s l = step c s l := by
  cases l <;> first | rfl | exact absurd rfl ‹_›

theorem Step.recov_ne_ended {c : Cfg} {s s' : State} {l : Label} (st : Step c s l s') (h : s.recov ≠ .ended) :
    s'.recov ≠ .ended := by
  cases st <;> first | exact h | nofun

theorem callerAt_dropRec : ∀ {l : Label}, l.callerAt = some .dropRec → l = .dropJoinRecovery ∨ l = .dropDetachRecovery
  | .dropJoinRecovery, _ => .inl rfl
  | .dropDetachRecovery, _ => .inr rfl

/-- Blocked in `thread.join()` of the recovery thread: once there, always there. -/
theorem blocked_in_join_step {c : Cfg} {s s' : State} {l : Label}
    (h : s.caller = .dropRec ∧ s.life = .started ∧ s.recov ≠ .ended) (hl : stepU c s l = some s') :
    s'.caller = .dropRec ∧ s'.life = .started ∧ s'.recov ≠ .ended := by
  obtain ⟨h1, h2, h3⟩ := h
  by_cases hj : l = .dropJoinRecovery
  · subst hj; exact absurd ((of_ite_some hl).1.2 h2) h3
  by_cases hd : l = .dropDetachRecovery
  · subst hd; cases hl
  rw [stepU_eq_step hj hd] at hl
  have st := Step.of_step hl
  cases hc : l.callerAt with
  | none =>
    obtain ⟨e1, e2, _⟩ := st.caller_frame hc
    exact ⟨e2.trans h1, e1.trans h2, st.recov_ne_ended h3⟩
  | some pc =>
    cases (st.caller_of_callerAt hc).symm.trans h1
    exact (callerAt_dropRec hc).elim (absurd · hj) (absurd · hd)

end Humphrey.Pool
