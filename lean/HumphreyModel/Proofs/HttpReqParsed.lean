import HumphreyModel.Spec.HttpReq
import HumphreyModel.Proofs.HttpReqParse
import HumphreyModel.Proofs.HttpSim
/-
What a successful run of the request parser tells: the shape of an accepted start line and field
line, the bytes the header loop and the whole parser consumed on the flat stream, and from these that
every request returned satisfies `Request.WFParsed` (the hypothesis of the round trip).
-/
namespace Humphrey.Http
open Humphrey Humphrey.Bytes Humphrey.IO

/-- What an accepted start line looks like: method name, target and version separated by single
SPs, the version non-empty and followed by CRLF; the target is the path, or path `?` query. -/
theorem parseStartLine_inv {full : Bytes} {m : Method} {uri query version : Bytes}
    (h : parseStartLine full = some (m, uri, query, version)) :
    ∃ target tail, utf8Valid full = true ∧
      full = m.name ++ SP :: (target ++ SP :: (version ++ CR :: LF :: tail)) ∧
      SP ∉ target ∧ SP ∉ version ∧ version ≠ [] ∧ QMARK ∉ uri ∧
      (target = uri ∧ query = [] ∨ target = uri ++ QMARK :: query) := by
  unfold parseStartLine at h
  split at h
  · cases h
  rename_i hutf
  split at h
  rotate_left
  · cases h
  rename_i mn target v rest hsplit
  split at h
  · cases h
  rename_i method hmeth
  dsimp only at h
  split at h
  · cases h
  rename_i hver
  obtain ⟨-, -, h1⟩ := splitOn_inv hsplit
  obtain ⟨s1, rfl, hsplit1⟩ := h1 (List.cons_ne_nil _ _)
  obtain ⟨ht_sp, -, h2⟩ := splitOn_inv hsplit1
  obtain ⟨s2, rfl, hsplit2⟩ := h2 (List.cons_ne_nil _ _)
  obtain ⟨hv_sp, hv2, hv3⟩ := splitOn_inv hsplit2
  obtain ⟨tail, rfl⟩ : ∃ tail, s2 = v ++ tail := by
    cases rest with
    | nil => exact ⟨[], by rw [hv2 rfl, List.append_nil]⟩
    | cons p ps => obtain ⟨s3, hs3, -⟩ := hv3 (List.cons_ne_nil _ _); exact ⟨SP :: s3, hs3⟩
  cases hs : stripCrlf v with
  | none => rw [hs] at hver; exact absurd rfl hver
  | some ver =>
    obtain rfl : v = ver ++ crlf := stripCrlf_inv hs
    rw [hs, Option.getD_some] at hver h
    obtain ⟨hq1, hq2, hq3⟩ := splitOnce_inv (s := target) (a := (splitOnce 63 target).1)
      (r := (splitOnce 63 target).2) rfl
    simp only [Option.some.injEq, Prod.mk.injEq] at h
    obtain ⟨rfl, rfl, rfl, rfl⟩ := h
    refine ⟨target, tail, by simpa using hutf, by rw [Method.ofName_inv hmeth]; simp [crlf, CR, LF],
      ht_sp, fun hm => hv_sp (List.mem_append_left _ hm), fun e => hver (by rw [e]; rfl), hq1, ?_⟩
    cases hq : (splitOnce 63 target).2 with
    | none => exact .inl ⟨hq2 hq, rfl⟩
    | some qq => exact .inr (hq3 qq hq)

/-- The clauses of `Request.WFParsed` that speak of the start line. -/
structure StartOk (uri query version : Bytes) : Prop where
  uri_chars : avoids [SP, QMARK, LF] uri
  uri_utf8 : utf8Valid uri = true
  query_chars : avoids [SP, LF] query
  query_utf8 : utf8Valid query = true
  version_nonempty : version ≠ []
  version_chars : avoids [SP, LF] version
  version_utf8 : utf8Valid version = true

/-- The line was read with `read_until(LF)` after the first byte, so LF can only end it. -/
theorem parseStartLine_ok {b : UInt8} {line : Bytes} {m : Method} {uri query version : Bytes}
    (hl : LineOf LF line) (h : parseStartLine (b :: line) = some (m, uri, query, version)) :
    StartOk uri query version := by
  obtain ⟨target, tail, hutf, hfull, ht_sp, hv_sp, hvne, hq, htarget⟩ := parseStartLine_inv h
  -- the method name is not empty, so `line` starts inside it
  obtain ⟨m0, mt, hm⟩ := List.exists_cons_of_ne_nil m.name_ne_nil
  rw [hfull, hm] at hutf
  rw [hm, List.cons_append] at hfull
  obtain ⟨-, hline⟩ := List.cons.inj hfull
  have hlf : LF ∉ mt ++ SP :: (target ++ SP :: version) :=
    hl.prefix (y := CR :: LF :: tail) (by rw [hline]; simp) (List.cons_ne_nil _ _)
  simp only [List.mem_append, List.mem_cons, not_or] at hlf
  obtain ⟨-, -, hlf_t, -, hlf_v⟩ := hlf
  have hu1 := (utf8Valid_split_ascii (a := m0 :: mt) SP _ (by decide) hutf).2
  have hu_t := (utf8Valid_split_ascii SP _ (by decide) hu1).1
  have hu_v := (utf8Valid_split_ascii CR _ (by decide)
    (utf8Valid_split_ascii SP _ (by decide) hu1).2).1
  have version_chars : avoids [SP, LF] version := by
    simp only [avoids_cons, avoids_nil, and_true]
    exact ⟨hv_sp, hlf_v⟩
  rcases htarget with ⟨rfl, rfl⟩ | rfl
  · refine ⟨?_, hu_t, (fun _ hb => nomatch hb), rfl, hvne, version_chars, hu_v⟩
    simp only [avoids_cons, avoids_nil, and_true]
    exact ⟨ht_sp, hq, hlf_t⟩
  · have hus := utf8Valid_split_ascii QMARK _ (by decide) hu_t
    simp only [List.mem_append, List.mem_cons, not_or] at ht_sp hlf_t
    obtain ⟨hsp_u, -, hsp_q⟩ := ht_sp
    obtain ⟨hlf_u, -, hlf_q⟩ := hlf_t
    refine ⟨?_, hus.1, ?_, hus.2, hvne, version_chars, hu_v⟩
    · simp only [avoids_cons, avoids_nil, and_true]
      exact ⟨hsp_u, hq, hlf_u⟩
    · simp only [avoids_cons, avoids_nil, and_true]
      exact ⟨hsp_q, hlf_q⟩

theorem parseHeaderLine_inv {line : Bytes} {h : Header} (hp : parseHeaderLine line = .ok h) :
    ∃ name value, utf8Valid line = true ∧ line = name ++ COLON :: value ++ crlf ∧ COLON ∉ name ∧
      h = ⟨HName.ofName name, trimStart value⟩ := by
  unfold parseHeaderLine at hp
  split at hp
  · cases hp
  rename_i hutf
  split at hp
  · cases hp
  rename_i body hstrip
  split at hp
  · cases hp
  rename_i name value hsplit
  obtain ⟨hn, -, hbody⟩ := splitOnce_inv hsplit
  refine ⟨name, value, by simpa using hutf, ?_, hn, (Outcome.ok.inj hp).symm⟩
  rw [stripCrlf_inv hstrip, hbody value rfl]
  rfl

/-- The clauses of `Request.WFParsed` that speak of one header field. -/
structure HeaderOk (h : Header) : Prop where
  name_chars : avoids [COLON, LF] h.name.lower
  name_utf8 : utf8Valid h.name.lower = true
  name_lower : asciiLower h.name.lower = h.name.lower
  value_chars : avoids [LF] h.value
  value_utf8 : utf8Valid h.value = true
  value_trimmed : trimStart h.value = h.value

theorem parseHeaderLine_ok {line : Bytes} {h : Header} (hl : LineOf LF line)
    (hp : parseHeaderLine line = .ok h) : HeaderOk h := by
  obtain ⟨name, value, hutf, rfl, hn, rfl⟩ := parseHeaderLine_inv hp
  have hlf : LF ∉ name ++ COLON :: value ++ [CR] :=
    hl.prefix (y := [LF]) (by simp [crlf, CR, LF]) (List.cons_ne_nil _ _)
  simp only [List.mem_append, List.mem_cons, not_or] at hlf
  obtain ⟨⟨hlf_n, -, hlf_v⟩, -⟩ := hlf
  have hu := utf8Valid_split_ascii COLON _ (by decide)
    (utf8Valid_split_ascii (a := name ++ COLON :: value) CR _ (by decide) hutf).1
  exact ⟨by simp only [avoids_cons, avoids_nil, and_true]
            exact ⟨not_mem_asciiLower (by decide) hn, not_mem_asciiLower (by decide) hlf_n⟩,
    utf8Valid_asciiLower hu.1, asciiLower_idem _,
    by simp only [avoids_cons, avoids_nil, and_true]; exact not_mem_trimStart hlf_v,
    utf8Valid_trimStart hu.2, trimStart_idem _⟩

/-- The header loop on the flat stream: the stream begins with the field lines it accepted, each read
with `read_until(LF)`, and the blank line; the fields are appended to `acc` in order. -/
theorem parseHeaders_flat_inv {fuel : Nat} {s : Bytes} {acc hs : Headers} {s' : Bytes}
    (hp : parseHeaders flatSource fuel s acc = .ok (hs, s')) :
    ∃ lines : List (Bytes × Header), s = (lines.map (·.1)).flatten ++ crlf ++ s' ∧
      hs = acc ++ lines.map (·.2) ∧ ∀ p ∈ lines, LineOf LF p.1 ∧ parseHeaderLine p.1 = .ok p.2 := by
  induction fuel generalizing s acc with
  | zero => cases hp
  | succ fuel ih =>
    have hcut := (flatReadUntil_append_eq LF s).symm
    rw [parseHeaders_succ, flatSource_readUntil] at hp
    by_cases hc : (flatReadUntil LF s).1 = crlf
    · rw [if_pos hc] at hp
      cases hp
      exact ⟨[], by rw [← hc]; exact hcut, (List.append_nil _).symm, fun _ hm => nomatch hm⟩
    · rw [if_neg hc] at hp
      cases hline : parseHeaderLine (flatReadUntil LF s).1 with
      | ok hd =>
        rw [hline] at hp
        obtain ⟨lines, e, rfl, hall⟩ := ih hp
        refine ⟨((flatReadUntil LF s).1, hd) :: lines, ?_, List.append_assoc .., ?_⟩
        · simp only [List.map_cons, List.flatten_cons, List.append_assoc] at e ⊢
          rw [← e]; exact hcut
        · intro p hm
          rcases List.mem_cons.mp hm with rfl | hm
          · exact ⟨flatReadUntil_lineOf LF s, hline⟩
          · exact hall p hm
      | err e => rw [hline] at hp; cases hp
      | panic => rw [hline] at hp; cases hp

/-- What a successful `from_stream` did, on any source: it read one byte and the rest of the start
line, ran the header loop and, told to by `Content-Length`, read the body. -/
theorem parseRequest_inv {σ : Type} {S : Source σ} {env : Env} {s : σ} {q : Request} {s' : σ}
    (h : parseRequest S env s = .ok (q, s')) :
    ∃ first s1 s3, S.readExact 1 s = some (first, s1) ∧
      parseStartLine (first ++ (S.readUntil LF s1).1) = some (q.method, q.uri, q.query, q.version) ∧
      parseHeaders S (S.remaining (S.readUntil LF s1).2 + 1) (S.readUntil LF s1).2 [] =
        .ok (q.headers, s3) ∧
      q.address = Address.fromHeaders env.parseIp trim q.headers env.peer env.port ∧
      match q.content with
      | none => q.headers.get hContentLength = none ∧ s' = s3
      | some body => ∃ cl n, q.headers.get hContentLength = some cl ∧ parseUsize cl = some n ∧
          S.readExact n s3 = some (body, s') := by
  unfold parseRequest at h
  split at h
  · cases h
  rename_i first s1 h1
  dsimp only at h
  split at h
  · cases h
  rename_i method uri query version hsl
  split at h
  · cases h
  · cases h
  rename_i headers s3 hh
  split at h
  · rename_i hcl
    cases h
    exact ⟨first, s1, _, h1, hsl, hh, rfl, hcl, rfl⟩
  · rename_i cl hcl
    split at h
    · cases h
    rename_i n hn
    split at h
    · cases h
    rename_i body s4 hb
    cases h
    exact ⟨first, s1, _, h1, hsl, hh, rfl, cl, n, hcl, hn, hb⟩

/-- The bytes a successful parse consumed, in order: the start line (its first byte read on its own),
the field lines, the blank line, the body. -/
theorem parseRequest_flat_layout {env : Env} {s : Bytes} {q : Request} {s' : Bytes}
    (hp : parseRequest flatSource env s = .ok (q, s')) :
    ∃ (b : UInt8) (line : Bytes) (lines : List (Bytes × Header)),
      s = b :: line ++ ((lines.map (·.1)).flatten ++ crlf ++ (q.content.getD [] ++ s')) ∧
      LineOf LF line ∧ parseStartLine (b :: line) = some (q.method, q.uri, q.query, q.version) ∧
      q.headers = lines.map (·.2) ∧ (∀ p ∈ lines, LineOf LF p.1 ∧ parseHeaderLine p.1 = .ok p.2) ∧
      q.address = Address.fromHeaders env.parseIp trim q.headers env.peer env.port ∧
      match q.content with
      | none => q.headers.get hContentLength = none
      | some body => ∃ cl, q.headers.get hContentLength = some cl ∧ parseUsize cl = some body.length := by
  obtain ⟨first, s1, s3, h1, hsl, hh, haddr, hbody⟩ := parseRequest_inv hp
  obtain ⟨rfl, hfirst⟩ := flatReadExact_some h1
  obtain ⟨b, rfl⟩ := List.length_eq_one_iff.mp hfirst
  rw [flatSource_readUntil] at hsl hh
  obtain ⟨lines, hlines, hhs, hall⟩ := parseHeaders_flat_inv hh
  have hcontent : s3 = q.content.getD [] ++ s' ∧ match q.content with
      | none => q.headers.get hContentLength = none
      | some body => ∃ cl, q.headers.get hContentLength = some cl ∧ parseUsize cl = some body.length := by
    revert hbody
    cases q.content with
    | none => exact fun ⟨hcl, e⟩ => ⟨e.symm, hcl⟩
    | some body =>
      rintro ⟨cl, n, hcl, hn, hb⟩
      obtain ⟨e, rfl⟩ := flatReadExact_some hb
      exact ⟨e, cl, hcl, hn⟩
  refine ⟨b, (flatReadUntil LF s1).1, lines, ?_, flatReadUntil_lineOf LF s1, hsl, hhs, hall, haddr,
    hcontent.2⟩
  rw [← hcontent.1, ← hlines]
  exact congrArg (b :: ·) (flatReadUntil_append_eq LF s1).symm

/-- **Every request `Request::from_stream` returns satisfies `WFParsed`** (flat stream), and its
address is the one computed from its headers and the peer. -/
theorem parseRequest_flat_inv (env : Env) (s : Bytes) (q : Request) (s' : Bytes)
    (hp : parseRequest flatSource env s = .ok (q, s')) :
    q.WFParsed ∧ q.address = Address.fromHeaders env.parseIp trim q.headers env.peer env.port := by
  obtain ⟨b, line, lines, -, hl, hsl, hhs, hall, haddr, hcl⟩ := parseRequest_flat_layout hp
  have hso := parseStartLine_ok hl hsl
  have hho : ∀ h ∈ q.headers, HeaderOk h := by
    intro h hm
    obtain ⟨p, hp, rfl⟩ := List.mem_map.mp (hhs ▸ hm)
    exact parseHeaderLine_ok (hall p hp).1 (hall p hp).2
  exact ⟨⟨hso.uri_chars, hso.uri_utf8, hso.query_chars, hso.query_utf8, hso.version_nonempty,
    hso.version_chars, hso.version_utf8, fun h hh => (hho h hh).name_chars,
    fun h hh => (hho h hh).name_utf8, fun h hh => (hho h hh).name_lower,
    fun h hh => (hho h hh).value_chars, fun h hh => (hho h hh).value_utf8,
    fun h hh => (hho h hh).value_trimmed, hcl⟩, haddr⟩

end Humphrey.Http
