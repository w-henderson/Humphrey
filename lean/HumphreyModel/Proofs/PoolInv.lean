import HumphreyModel.Proofs.PoolBasic
import HumphreyModel.Spec.Pool

/-!
The inductive invariant of the pool's transition system (C08): where every task is (`InvCount`), worker table, receiver
mutex and recovery bookkeeping (`InvStruct`), the caller's lifecycle variables (`InvCaller`), the shape of the queue
(`InvQueue`); `Inv` is all four. For each, a worker's move from one phase to the next is dealt with once (`*.move`).
-/
namespace Humphrey.Pool

def holdsC (k : Nat) (p : Phase) : Nat := p.holds.count k
def runsC (k : Nat) (p : Phase) : Nat := p.runs.count k

theorem queuedTasks_append (q : List Msg) (m : Msg) : queuedTasks (q ++ [m]) = queuedTasks q ++ taskOf m := by
  simp [queuedTasks]

theorem queuedTasks_cons (q : List Msg) (m : Msg) : queuedTasks (m :: q) = taskOf m ++ queuedTasks q := by
  simp [queuedTasks]

/-- Where every task is: the counting invariant behind exactly-once and FIFO. -/
structure InvCount (s : State) : Prop where
  fifo : s.dequeued ++ queuedTasks s.queue = s.submitted
  deq : ∀ k, s.dequeued.count k = sumBy (holdsC k) s.workers + s.finished.count k + s.panicked.count k
  sta : ∀ k, s.started.count k = sumBy (runsC k) s.workers + s.finished.count k + s.panicked.count k
  sub : s.submitted = List.range s.submitted.length
  cre : s.life = .created → s.workers = []

theorem invCount_init : InvCount init := by
  constructor <;> simp [init, queuedTasks, sumBy]

theorem holdsC_got (k : Nat) (m : Msg) : holdsC k (.got (some m)) = (taskOf m).count k := by cases m <;> rfl

theorem holdsC_ready (k : Nat) (r : Option Msg) : holdsC k (.ready r) = holdsC k (.got r) := by
  rcases r with _ | _ | _ <;> rfl

/-- Worker `w` moves from phase `p` to `q`. The books stay balanced if every task goes along: what `w` held (ran)
before plus what the step dequeued (started) is what it holds (runs) now plus what the step finished or panicked. -/
theorem InvCount.move {s s' : State} {w : Nat} {p q : Phase} (h : InvCount s) (hw : s.workers[w]? = some p)
    (hws : s'.workers = s.workers.set w q) (hlife : s'.life = s.life) (hsub : s'.submitted = s.submitted)
    (hfifo : s'.dequeued ++ queuedTasks s'.queue = s.dequeued ++ queuedTasks s.queue)
    (hdeq : ∀ k, s'.dequeued.count k + holdsC k p + s.finished.count k + s.panicked.count k =
      s.dequeued.count k + holdsC k q + s'.finished.count k + s'.panicked.count k)
    (hsta : ∀ k, s'.started.count k + runsC k p + s.finished.count k + s.panicked.count k =
      s.started.count k + runsC k q + s'.finished.count k + s'.panicked.count k) : InvCount s' := by
  refine ⟨hfifo.trans h.fifo |>.trans hsub.symm, ?_, ?_, hsub ▸ h.sub, ?_⟩
  · intro k
    have := h.deq k; have := hdeq k; have := sumBy_set (g := holdsC k) q hw
    rw [hws]; omega
  · intro k
    have := h.sta k; have := hsta k; have := sumBy_set (g := runsC k) q hw
    rw [hws]; omega
  · intro hl; rw [h.cre (hlife ▸ hl)] at hw; cases hw

theorem invCount_step {c : Cfg} {s s' : State} {l : Label} (h : InvCount s) (st : Step c s l s') : InvCount s' := by
  cases st with
  | start h1 h2 =>
    -- there were no workers, and idle ones hold nothing
    have z (g : Phase → Nat) (hg : g .idle = 0) : sumBy g (List.replicate c.n .idle) = sumBy g s.workers := by
      rw [h.cre h1, sumBy_replicate, hg]; rfl
    exact ⟨h.fifo, fun k => (h.deq k).trans (by rw [z (holdsC k) rfl]),
      fun k => (h.sta k).trans (by rw [z (runsC k) rfl]), h.sub, nofun⟩
  | submit h1 h2 =>
    refine ⟨?_, h.deq, h.sta, ?_, by simp [h1]⟩
    · simp [queuedTasks_append, taskOf, ← List.append_assoc, h.fifo]
    · have := h.sub; simp [List.range_succ]; exact this
  | stop h1 h2 =>
    refine ⟨?_, h.deq, h.sta, h.sub, by simp⟩
    simp [queuedTasks_append, taskOf, h.fifo]
  | recRecv | recJoin | dropBegin | dropDetachRecovery | dropDetach => exact ⟨h.fifo, h.deq, h.sta, h.sub, h.cre⟩
  | dropSender => exact ⟨h.fifo, h.deq, h.sta, h.sub, nofun⟩
  | reqLock hw | lock hw | recvErr hw | exitErr hw | exitShutdown hw | markerSend hw | recRespawn _ hw =>
    exact h.move hw rfl rfl rfl rfl (fun _ => rfl) (fun _ => rfl)
  | @recvMsg w m q hw hq =>
    refine h.move hw rfl rfl rfl ?_ (fun k => ?_) (fun _ => rfl)
    · show (s.dequeued ++ taskOf m) ++ queuedTasks q = _
      rw [hq, queuedTasks_cons, List.append_assoc]
    · rw [holdsC_got]; simp only [setW, holdsC, Phase.holds, List.count_append, List.count_nil]; omega
  | unlock hw => exact h.move hw rfl rfl rfl rfl (fun k => by rw [holdsC_ready]; rfl) (fun _ => rfl)
  | run hw | finish hw | panic hw =>
    refine h.move hw rfl rfl rfl rfl (fun k => ?_) (fun k => ?_) <;>
      simp only [setW, holdsC, runsC, Phase.holds, Phase.runs, List.count_append, List.count_nil] <;> omega

def Phase.holdsLock : Phase → Bool
  | .inRecv | .got _ => true
  | _ => false

def Rec.busyWith : Rec → Wid → Bool
  | .joining w, v => w == v
  | .respawning w, v => w == v
  | _, _ => false

def NeverStarted (s : State) : Prop :=
  s.workers = [] ∧ s.recov = .absent ∧ s.queue = [] ∧ s.submitted = [] ∧ s.recChan = [] ∧
    s.life ≠ .started ∧ s.life ≠ .stopped

theorem NeverStarted.queue_nil {s : State} (h : NeverStarted s) : s.queue = [] := h.2.2.1

theorem NeverStarted.submitted_nil {s : State} (h : NeverStarted s) : s.submitted = [] := h.2.2.2.1

theorem NeverStarted.not_started {s : State} (h : NeverStarted s) : s.life ≠ .started := h.2.2.2.2.2.1

theorem NeverStarted.not_stopped {s : State} (h : NeverStarted s) : s.life ≠ .stopped := h.2.2.2.2.2.2

structure InvStruct (c : Cfg) (s : State) : Prop where
  shape : (s.life ≠ .created ∧ s.workers.length = c.n ∧ s.recov ≠ .absent) ∨ NeverStarted s
  /-- the mutex owner is in `recv` or has just come out of it … -/
  lockOwner : ∀ w, s.rxLock = some w → ∃ p, s.workers[w]? = some p ∧ p.holdsLock = true
  /-- … and nobody else is -/
  lockHeld : ∀ w p, s.workers[w]? = some p → p.holdsLock = true → s.rxLock = some w
  /-- every dead worker is known to the recovery thread exactly once -/
  recv : ∀ w, s.recChan.count w + (if s.recov.busyWith w then 1 else 0) = (if s.workers[w]? = some .dead then 1 else 0)
  recAlive : s.recov ≠ .ended

theorem invStruct_init (c : Cfg) : InvStruct c init := by
  constructor <;> simp [init, Rec.busyWith, NeverStarted]

theorem InvStruct.neverStarted {c : Cfg} {s : State} (h : InvStruct c s) (hl : s.life = .created) : NeverStarted s :=
  h.shape.resolve_left fun h' => h'.1 hl

theorem InvStruct.started_shape {c : Cfg} {s : State} (h : InvStruct c s) (hl : s.life = .started ∨ s.life = .stopped) :
    s.life ≠ .created ∧ s.workers.length = c.n ∧ s.recov ≠ .absent :=
  h.shape.resolve_right fun ns => hl.elim ns.not_started ns.not_stopped

theorem InvStruct.shape_of_worker {c : Cfg} {s : State} {w : Nat} {p : Phase} (h : InvStruct c s)
    (hw : s.workers[w]? = some p) : s.life ≠ .created ∧ s.workers.length = c.n ∧ s.recov ≠ .absent :=
  h.shape.resolve_right fun ns => by rw [ns.1] at hw; cases hw

theorem InvStruct.dead_of {c : Cfg} {s : State} (h : InvStruct c s) {v : Nat}
    (hv : v ∈ s.recChan ∨ s.recov.busyWith v = true) : s.workers[v]? = some .dead := by
  have := h.recv v
  by_cases e : s.workers[v]? = some .dead
  · exact e
  · rw [if_neg e] at this
    rcases hv with hv | hv
    · have := List.count_pos_iff.mpr hv; omega
    · rw [if_pos hv] at this; omega

/-- Worker `w` moves from phase `p` to `q`. Either the receiver's mutex is not involved, or it was free or `w`'s and is
`w`'s afterwards exactly if `q` holds it; and the recovery thread's books (ids in its channel or in its hands against
dead workers) move with `w` entering or leaving `dead`. -/
theorem InvStruct.move {c : Cfg} {s s' : State} {w : Nat} {p q : Phase} (h : InvStruct c s)
    (hw : s.workers[w]? = some p) (hws : s'.workers = s.workers.set w q) (hlife : s'.life = s.life)
    (hrec : s'.recov = s.recov ∨ (s'.recov ≠ .absent ∧ s'.recov ≠ .ended))
    (hlock : (s'.rxLock = s.rxLock ∧ q.holdsLock = p.holdsLock) ∨
      ((s.rxLock = none ∨ s.rxLock = some w) ∧ s'.rxLock = if q.holdsLock then some w else none))
    (hdead : ∀ v, s'.recChan.count v + (if p = .dead ∧ w = v then 1 else 0) + (if s'.recov.busyWith v then 1 else 0) =
      s.recChan.count v + (if q = .dead ∧ w = v then 1 else 0) + (if s.recov.busyWith v then 1 else 0)) :
    InvStruct c s' := by
  have sh := h.shape_of_worker hw
  have hne : s'.recov ≠ .absent ∧ s'.recov ≠ .ended := by
    rcases hrec with e | e
    · exact e ▸ ⟨sh.2.2, h.recAlive⟩
    · exact e
  refine ⟨.inl ⟨hlife ▸ sh.1, by rw [hws, List.length_set]; exact sh.2.1, hne.1⟩, ?_, ?_, ?_, hne.2⟩
  · intro v hv
    rw [hws, getElem?_set_of_some hw]
    rcases hlock with ⟨e1, e2⟩ | ⟨_, e1⟩
    · obtain ⟨p', hp', hh⟩ := h.lockOwner v (e1 ▸ hv)
      by_cases e : w = v
      · subst e; cases hw.symm.trans hp'; exact ⟨q, if_pos rfl, e2 ▸ hh⟩
      · exact ⟨p', (if_neg e).trans hp', hh⟩
    · rw [e1] at hv
      split at hv
      · cases hv; exact ⟨q, if_pos rfl, ‹_›⟩
      · cases hv
  · intro v p' hv hh
    rcases getElem?_set_cases (hws ▸ hv) with ⟨rfl, rfl⟩ | ⟨e, hv⟩
    · rcases hlock with ⟨e1, e2⟩ | ⟨_, e1⟩
      · exact e1 ▸ h.lockHeld w p hw (e2 ▸ hh)
      · rw [e1, if_pos hh]
    · have := h.lockHeld v p' hv hh
      rcases hlock with ⟨e1, _⟩ | ⟨hf | hf, _⟩
      · exact e1 ▸ this
      · cases hf.symm.trans this
      · cases hf.symm.trans this; exact absurd rfl e
  · intro v
    have h1 := h.recv v; have h2 := hdead v
    rw [hws, getElem?_set_of_some hw]
    by_cases e : w = v
    · subst e
      simp only [hw, Option.some.injEq, and_true, if_true] at h1 h2 ⊢; omega
    · simp only [e, and_false, if_false] at h2 ⊢; omega

theorem invStruct_step {c : Cfg} {s s' : State} {l : Label} (h : InvStruct c s) (st : Step c s l s') :
    InvStruct c s' := by
  cases st with
  | start h1 h2 =>
    obtain ⟨hw, hr, hq, hs, hc, _, _⟩ := h.neverStarted h1
    refine ⟨.inl ⟨nofun, List.length_replicate, nofun⟩, ?_, ?_, ?_, nofun⟩
    · intro v hv; obtain ⟨p, hp, _⟩ := h.lockOwner v hv; rw [hw] at hp; cases hp
    · intro v p hv hh; cases eq_of_getElem?_replicate hv; cases hh
    · intro v; simp [hc, Rec.busyWith, List.getElem?_replicate]
  | submit h1 h2 => exact ⟨.inl (h.started_shape (.inl h1)), h.lockOwner, h.lockHeld, h.recv, h.recAlive⟩
  | stop h1 h2 =>
    exact ⟨.inl ⟨nofun, (h.started_shape (.inl h1)).2⟩, h.lockOwner, h.lockHeld, h.recv, h.recAlive⟩
  | reqLock hw | recvMsg hw | recvErr hw | run hw | exitErr hw | exitShutdown hw | finish hw | panic hw =>
    exact h.move hw rfl rfl (.inl rfl) (.inl ⟨rfl, rfl⟩) (fun _ => rfl)
  | lock hw h2 => exact h.move hw rfl rfl (.inl rfl) (.inr ⟨.inl h2, rfl⟩) (fun _ => rfl)
  | unlock hw h2 => exact h.move hw rfl rfl (.inl rfl) (.inr ⟨.inr h2, rfl⟩) (fun _ => rfl)
  | markerSend hw =>
    exact h.move hw rfl rfl (.inl rfl) (.inl ⟨rfl, rfl⟩) (fun v => by simp [setW, List.count_append, List.count_singleton]; rfl)
  | recRespawn h1 hw =>
    exact h.move hw rfl rfl (.inr ⟨nofun, nofun⟩) (.inl ⟨rfl, rfl⟩) (fun v => by simp [setW, h1, Rec.busyWith])
  -- the recovery thread taking up or going on with a dead worker is that worker "moving" from `dead` to `dead`
  | @recRecv w h1 h2 =>
    have hw := h.dead_of (.inl h2)
    refine h.move hw (set_getElem?_self hw).symm rfl (.inr ⟨nofun, nofun⟩) (.inl ⟨rfl, rfl⟩) (fun v => ?_)
    have := List.count_pos_iff.mpr h2
    by_cases e : w = v
    · subst e; simp [h1, Rec.busyWith, List.count_erase_self]; omega
    · simp [h1, Rec.busyWith, List.count_erase_of_ne (Ne.symm e), e]
  | recJoin h1 hw =>
    exact h.move hw (set_getElem?_self hw).symm rfl (.inr ⟨nofun, nofun⟩) (.inl ⟨rfl, rfl⟩) (fun _ => by rw [h1]; rfl)
  | dropBegin | dropDetachRecovery | dropDetach => exact ⟨h.shape, h.lockOwner, h.lockHeld, h.recv, h.recAlive⟩
  | dropSender h1 =>
    refine ⟨?_, h.lockOwner, h.lockHeld, h.recv, h.recAlive⟩
    rcases h.shape with h' | h'
    · exact .inl ⟨by simp, h'.2⟩
    · exact .inr ⟨h'.1, h'.2.1, h'.2.2.1, h'.2.2.2.1, h'.2.2.2.2.1, by simp, by simp⟩

structure InvCaller (s : State) : Prop where
  dropped : s.life = .dropped ↔ s.caller = .done
  threads : s.caller = .dropThreads → s.life ≠ .created
  sender : s.senderAlive = false ↔ s.life = .dropped

theorem invCaller_init : InvCaller init := by constructor <;> simp [init]

/-- Before `Drop` has finished, the caller moves on in its program … -/
theorem InvCaller.set_caller {s s' : State} (h : InvCaller s) (hl : s'.life = s.life)
    (hsa : s'.senderAlive = s.senderAlive) (hs : s.caller ≠ .done) (hx : s'.caller ≠ .done)
    (ht : s'.caller = .dropThreads → s.life ≠ .created) : InvCaller s' :=
  ⟨⟨fun hd => absurd (h.dropped.mp (hl ▸ hd)) hs, fun e => absurd e hx⟩, hl ▸ ht, hl ▸ hsa ▸ h.sender⟩

/-- … or the pool goes from one of its live states to another. -/
theorem InvCaller.set_life {s s' : State} (h : InvCaller s) (hc : s'.caller = s.caller)
    (hsa : s'.senderAlive = s.senderAlive) (hs : s.life ≠ .dropped) (hy : s'.life ≠ .dropped)
    (ht : s'.life ≠ .created) : InvCaller s' :=
  ⟨⟨fun e => absurd e hy, fun e => absurd (h.dropped.mpr (hc ▸ e)) hs⟩, fun _ => ht,
    ⟨fun e => absurd (h.sender.mp (hsa ▸ e)) hs, fun e => absurd e hy⟩⟩

theorem invCaller_step {c : Cfg} {s s' : State} {l : Label} (h : InvCaller s) (st : Step c s l s') : InvCaller s' := by
  cases hl : l.callerAt with
  | none =>
    obtain ⟨e1, e2, e3⟩ := st.caller_frame hl
    exact ⟨by rw [e1, e2]; exact h.dropped, by rw [e1, e2]; exact h.threads, by rw [e1, e3]; exact h.sender⟩
  | some pc =>
    cases st with
    | submit => exact ⟨h.dropped, h.threads, h.sender⟩
    | start a | stop a => exact h.set_life rfl rfl (by rw [a]; nofun) nofun nofun
    | dropBegin a | dropDetach a => exact h.set_caller rfl rfl (by rw [a]; nofun) nofun nofun
    | dropDetachRecovery a =>
      refine h.set_caller rfl rfl (by rw [a]; nofun) ?_ fun e hc => ?_
      · show (if _ then _ else _) ≠ _; split <;> nofun
      · rw [show (afterRecoveryHandle s).caller = _ from if_pos hc] at e; cases e
    | dropSender a => exact ⟨iff_of_true rfl rfl, nofun, iff_of_true rfl rfl⟩
    | _ => cases hl

/-! ### Shape of the queue: the single `Shutdown` is the last message; who has left has left an empty queue -/

def Phase.exitish : Phase → Bool
  | .got none | .ready none | .got (some .shutdown) | .ready (some .shutdown) | .exited => true
  | _ => false

structure InvQueue (s : State) : Prop where
  wf : ∀ pre post, s.queue = pre ++ Msg.shutdown :: post → post = []
  started : s.life = .started → Msg.shutdown ∉ s.queue ∧ ∀ (w : Nat) (p : Phase), s.workers[w]? = some p → p.exitish = false
  drained : ∀ (w : Nat) (p : Phase), s.workers[w]? = some p → p.exitish = true → s.queue = []

theorem invQueue_init : InvQueue init := by
  constructor <;> simp [init]

theorem snoc_shutdown_last {q pre post : List Msg} {m : Msg} (hq : Msg.shutdown ∉ q)
    (h : q ++ [m] = pre ++ Msg.shutdown :: post) : post = [] := by
  rcases List.eq_nil_or_concat post with rfl | ⟨post', x, rfl⟩
  · rfl
  · -- otherwise `q` itself is `pre ++ shutdown :: post'`
    rw [List.concat_eq_append, ← List.cons_append, ← List.append_assoc] at h
    exact absurd (List.append_inj_left' h rfl ▸ List.mem_append_right pre List.mem_cons_self) hq

theorem InvQueue.push {s s' : State} {m : Msg} (h : InvQueue s) (hl : s.life = .started)
    (hws : s'.workers = s.workers) (hq : s'.queue = s.queue ++ [m]) (hm : s'.life = .started → m ≠ .shutdown) :
    InvQueue s' := by
  have hst := h.started hl
  refine ⟨fun pre post hp => snoc_shutdown_last hst.1 (hq ▸ hp), fun hl' => ⟨?_, hws ▸ hst.2⟩,
    fun v p hv hx => nomatch (hst.2 v p (hws ▸ hv)).symm.trans hx⟩
  rw [hq, List.mem_append, List.mem_singleton]
  exact fun hn => hn.elim hst.1 fun e => hm hl' e.symm

/-- Worker `w` moves from `p` to `q`, possibly taking messages `pre` off the front of the queue. It may be on its way out
afterwards only if it was before, or if it has seen the queue empty in a pool that is no longer started. -/
theorem InvQueue.move {s s' : State} {w : Nat} {p q : Phase} {pre : List Msg} (h : InvQueue s)
    (hw : s.workers[w]? = some p) (hws : s'.workers = s.workers.set w q) (hqu : s.queue = pre ++ s'.queue)
    (hlife : s'.life = s.life)
    (hq : q.exitish = true → p.exitish = true ∨ (s'.queue = [] ∧ s.life ≠ .started)) : InvQueue s' := by
  refine ⟨fun pre' post hp => h.wf (pre ++ pre') post (by rw [hqu, hp, List.append_assoc]), fun hl => ?_,
    fun v p' hv hx => ?_⟩
  · have hst := h.started (hlife ▸ hl)
    refine ⟨fun hm => hst.1 (hqu ▸ List.mem_append_right _ hm), fun v p' hv => ?_⟩
    rcases getElem?_set_cases (hws ▸ hv) with ⟨_, rfl⟩ | ⟨_, hv⟩
    · cases hx : p'.exitish
      · rfl
      · rcases hq hx with hp | ⟨_, hn⟩
        · exact hp.symm.trans (hst.2 w p hw)
        · exact absurd (hlife ▸ hl) hn
    · exact hst.2 v p' hv
  · have he : s.queue = [] → s'.queue = [] := fun h0 => (List.append_eq_nil_iff.mp (hqu ▸ h0)).2
    rcases getElem?_set_cases (hws ▸ hv) with ⟨_, rfl⟩ | ⟨_, hv⟩
    · rcases hq hx with hp | ⟨h0, _⟩
      · exact he (h.drained w p hw hp)
      · exact h0
    · exact he (h.drained v p' hv hx)

theorem invQueue_step {c : Cfg} {s s' : State} {l : Label} (hs : InvStruct c s) (hc : InvCaller s)
    (h : InvQueue s) (st : Step c s l s') : InvQueue s' := by
  cases st with
  | start h1 h2 =>
    have hq := (hs.neverStarted h1).queue_nil
    refine ⟨fun pre post hp => ?_, fun _ => ⟨?_, fun v p hv => ?_⟩, fun v p hv hx => ?_⟩
    · rw [show _ = pre ++ Msg.shutdown :: post from hp] at hq; cases pre <;> cases hq
    · rw [show _ = [] from hq]; exact List.not_mem_nil
    · cases eq_of_getElem?_replicate hv; rfl
    · cases eq_of_getElem?_replicate hv; cases hx
  | submit h1 => exact h.push h1 rfl rfl fun _ => nofun
  | stop h1 => exact h.push h1 rfl rfl nofun
  | reqLock hw | lock hw | run hw | finish hw | panic hw | markerSend hw | recRespawn _ hw =>
    exact h.move (pre := []) hw rfl rfl rfl nofun
  | @recvMsg w m q hw hq =>
    refine h.move (pre := [m]) hw rfl hq rfl fun hx => ?_
    cases m with
    | task k => cases hx
    | shutdown => exact .inr ⟨h.wf [] q hq, fun hl => (h.started hl).1 (hq ▸ List.mem_cons_self)⟩
  | recvErr hw hq h3 =>
    exact h.move (pre := []) hw rfl rfl rfl fun _ => .inr ⟨hq, fun hl => nomatch hl.symm.trans (hc.sender.mp h3)⟩
  | @unlock w r hw h2 =>
    exact h.move (pre := []) hw rfl rfl rfl (by rcases r with _ | _ | _ <;> simp [Phase.exitish])
  | exitErr hw | exitShutdown hw => exact h.move (pre := []) hw rfl rfl rfl fun _ => .inl rfl
  | recRecv | recJoin | dropBegin | dropDetachRecovery | dropDetach => exact ⟨h.wf, h.started, h.drained⟩
  | dropSender h1 => exact ⟨h.wf, nofun, h.drained⟩

structure Inv (c : Cfg) (s : State) : Prop where
  count : InvCount s
  struct : InvStruct c s
  caller : InvCaller s
  queue : InvQueue s

theorem inv_step {c : Cfg} {s s' : State} {l : Label} (hi : Inv c s) (h : step c s l = some s') : Inv c s' :=
  have st := Step.of_step h
  ⟨invCount_step hi.count st, invStruct_step hi.struct st, invCaller_step hi.caller st,
    invQueue_step hi.struct hi.caller hi.queue st⟩

theorem Inv.of_reachable {c : Cfg} {s : State} (h : Reachable c s) : Inv c s :=
  Reachable.induct ⟨invCount_init, invStruct_init c, invCaller_init, invQueue_init⟩ (fun _ _ _ => inv_step) h

theorem InvStruct.of_reachable {c : Cfg} {s : State} (h : Reachable c s) : InvStruct c s := (Inv.of_reachable h).struct

theorem InvCaller.of_reachable {c : Cfg} {s : State} (h : Reachable c s) : InvCaller s := (Inv.of_reachable h).caller

def viewOf (c : Cfg) (s : State) : PoolSpec.View where
  n := c.n
  submitted := s.submitted
  queued := queuedTasks s.queue
  held := heldTasks s.workers
  running := runningTasks s.workers
  finished := s.finished
  panicked := s.panicked
  startedLog := s.started
  dequeuedLog := s.dequeued
  workers := s.workers.length
  exited := exitedCount s.workers
  usable := usableCount s.workers
  callerDone := s.caller == .done

theorem length_runningTasks (ws : List Phase) : (runningTasks ws).length = runningCount ws := by
  induction ws with
  | nil => simp [runningTasks, runningCount]
  | cons p ps ih =>
    simp only [runningTasks, runningCount] at ih ⊢
    cases p <;> simp [List.flatMap_cons, Phase.runs, Phase.isRunning, List.filter_cons, ih]

theorem workers_length_le {c : Cfg} {s : State} (h : InvStruct c s) : s.workers.length ≤ c.n := by
  rcases h.shape with h' | h'
  · omega
  · simp [h'.1]

end Humphrey.Pool
