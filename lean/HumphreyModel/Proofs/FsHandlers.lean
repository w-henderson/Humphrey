import HumphreyModel.Proofs.FsWalk
/-!
Confinement for C06. Every handler opens `directory/<text>` for a text without `..`, and `metadata`
of such a path names only files inside the directory (`metadata_inside`). So whatever
`try_find_path` locates is a regular file inside (`tryFindPath_confined`); `serve_dir` and the
server's `directory_handler` only pass its answer on (`Answers`), so what they serve is inside too
and they cannot panic on it; the repaired `serve_as_file_path` is covered by `serveAsFilePath_cases`.
Also the witness of the escape of the unrepaired `serve_as_file_path`.
-/
namespace Humphrey.Fs
open Humphrey

theorem components_join (d r : Bytes) :
    components (d ++ [47] ++ r) = components d ++ components r := by
  simp only [components, List.append_assoc, List.singleton_append]
  exact splitOn_at_sep 47 d r

theorem metadata_eq (world : Node) (path : Bytes) :
    metadata world path =
      (walk world [] (components path)).bind fun canon => (lookup world canon).map (canon, ·) := by
  unfold metadata
  cases walk world [] (components path) with
  | none => rfl
  | some canon =>
    simp only [Option.bind_some]
    cases lookup world canon <;> rfl

/-- Why nothing outside is reached: `metadata` of `directory/rest` first walks the directory, then
the rest from there; a rest without `..` component only descends, so a regular file it names lies
inside the directory. -/
theorem metadata_inside {world : Node} {d r : Bytes} {canon : List Name} {c : Bytes}
    (hno : ∀ x ∈ components r, x ≠ [46, 46])
    (h : metadata world (d ++ [47] ++ r) = some (canon, .file c)) :
    ∃ dirPath, canonicalDir world d = some dirPath ∧ lookup world canon = some (.file c) ∧
      Spec.Inside world dirPath canon c := by
  rw [metadata_eq, components_join, walk_append] at h
  simp only [Option.bind_eq_some_iff, Option.map_eq_some_iff, Prod.mk.injEq] at h
  obtain ⟨_, ⟨dirPath, hd, hw⟩, _, hl, rfl, rfl⟩ := h
  obtain ⟨rel, rfl⟩ := walk_descends hno hw
  obtain ⟨dnode, hdn, hr⟩ := lookup_prefix hl
  exact ⟨dirPath, hd, hl, dnode, rel, (lookup_iff_descends _ _ _).mp hdn, rfl,
    (lookup_iff_descends _ _ _).mp hr⟩

theorem findIndex_file {world : Node} {d rp : Bytes} {index : List Bytes} {p : List Name}
    (h : findIndex world d rp index = some (.file p)) :
    ∃ f ∈ index, ∃ c, metadata world (d ++ [47] ++ rp ++ f) = some (p, .file c) := by
  induction index with
  | nil => simp [findIndex] at h
  | cons f fs ih =>
    simp only [findIndex] at h
    split at h
    · rename_i canon c hm
      simp only [Option.some.injEq, Located.file.injEq] at h
      subst h
      exact ⟨f, List.mem_cons_self .., c, hm⟩
    · obtain ⟨g, hg, c, hc⟩ := ih h
      exact ⟨g, List.mem_cons_of_mem _ hg, c, hc⟩

theorem endsWithSlash_eq {s : Bytes} (h : endsWithSlash s = true) : ∃ ys, s = ys ++ [47] :=
  List.getLast?_eq_some_iff.mp (by simpa [endsWithSlash] using h)

theorem hasDotDot_trimStartSlash {s : Bytes} (h : hasDotDot s = false) :
    hasDotDot (trimStartSlash s) = false :=
  hasDotDot_infix (List.dropWhile_suffix _).isInfix h

theorem index_components {rp f : Bytes} (hrp : endsWithSlash rp = true ∨ rp = [])
    (hdd : hasDotDot rp = false) (hf : ∀ c ∈ components f, c ≠ [46, 46]) :
    ∀ c ∈ components (rp ++ f), c ≠ [46, 46] := by
  rcases hrp with h | rfl
  · obtain ⟨ys, rfl⟩ := endsWithSlash_eq h
    rw [components_join]
    exact List.forall_mem_append.mpr
      ⟨no_dotdot_component (hasDotDot_infix (List.prefix_append ys [47]).isInfix hdd), hf⟩
  · exact hf

/-- **Confinement of `try_find_path`** (general index list without `..` components). -/
theorem tryFindPath_confined {world : Node} {dir req : Bytes} {index : List Bytes}
    (hidx : ∀ f ∈ index, ∀ c ∈ components f, c ≠ [46, 46]) {p : List Name}
    (h : tryFindPath world dir req index = some (.file p)) :
    ∃ dirPath c, canonicalDir world (trimEndSlash dir) = some dirPath ∧
      lookup world p = some (.file c) ∧ Spec.Inside world dirPath p c := by
  unfold tryFindPath at h
  cases hdec : Percent.decode req with
  | none => rw [hdec] at h; cases h
  | some decoded =>
    rw [hdec] at h
    dsimp only at h
    by_cases hutf : (!Bytes.utf8Valid decoded) = true
    · rw [if_pos hutf] at h; cases h
    rw [if_neg hutf] at h
    by_cases hchk : (hasDotDot decoded || decoded.contains 58) = true
    · rw [if_pos hchk] at h; cases h
    rw [if_neg hchk] at h
    have hdd : hasDotDot decoded = false := (Bool.or_eq_false_iff.mp (Bool.eq_false_iff.mpr hchk)).1
    have hrp := hasDotDot_trimStartSlash hdd
    by_cases hbr : (endsWithSlash (trimStartSlash decoded) || (trimStartSlash decoded).isEmpty) = true
    · -- index files
      rw [if_pos hbr] at h
      obtain ⟨f, hf, c, hm⟩ := findIndex_file h
      rw [List.append_assoc] at hm
      rw [Bool.or_eq_true, List.isEmpty_iff] at hbr
      obtain ⟨dirPath, hin⟩ := metadata_inside (index_components hbr hrp (hidx f hf)) hm
      exact ⟨dirPath, c, hin⟩
    · rw [if_neg hbr] at h
      cases hm : metadata world (trimEndSlash dir ++ [47] ++ trimStartSlash decoded) with
      | none => rw [hm] at h; cases h
      | some cn =>
        obtain ⟨canon, c | _⟩ := cn <;> rw [hm] at h <;> cases h
        obtain ⟨dirPath, hin⟩ := metadata_inside (no_dotdot_component hrp) hm
        exact ⟨dirPath, c, hin⟩

theorem indexFiles_eq : indexFiles = [Spec.indexHtml, Spec.indexHtm] := rfl

theorem indexFiles_plainName :
    ∀ f ∈ [Spec.indexHtml, Spec.indexHtm], Spec.PlainName f ∧ f ≠ [46, 46] := by
  unfold Spec.PlainName; decide

theorem indexFiles_plain : ∀ f ∈ indexFiles, ∀ c ∈ components f, c ≠ [46, 46] := by
  intro f hf c hc
  obtain ⟨⟨-, h47, -, -⟩, hdd⟩ := indexFiles_plainName f (indexFiles_eq ▸ hf)
  rw [components, Bytes.splitOn_no_sep h47, List.mem_singleton] at hc
  exact hc ▸ hdd

/-- What `serve_dir` and the server's `directory_handler` both make of the answer `found` of
`try_find_path` to a request for `uri`: 404 for nothing, a redirect to the slash form for a
directory, and for a file its bytes with the Content-Type of its extension. The two handlers differ
only where this leaves `r` open: in the type sent for a name without extension, and in how they fail
when the located path is not a readable file, which `tryFindPath_confined` excludes. -/
def Answers (world : Node) (uri : List Char) (found : Option Located) (r : Resp) : Prop :=
  match found with
  | none => r = .notFound
  | some .directory => r = .moved (utf8 uri ++ [47])
  | some (.file p) => ∀ c, lookup world p = some (.file c) →
      ∃ ct, r = .ok ct c p ∧ ∀ e, canonExtension p = some e → ct = some (mimeFromExtension e)

theorem serveDir_answers {uri route rest : List Char}
    (h : (stripPrefix (stripStarSuffix route) uri).getD uri = rest) (world : Node) (dir : Bytes) :
    Answers world uri (tryFindPath world dir (utf8 rest) indexFiles) (serveDir world dir uri route) := by
  subst h
  unfold serveDir
  dsimp only
  rcases tryFindPath world dir _ indexFiles with _ | _ | p
  · exact rfl
  · exact rfl
  · intro c hc
    simp only [hc]
    cases canonExtension p with
    | none => exact ⟨none, rfl, fun _ he => nomatch he⟩
    | some e => exact ⟨_, rfl, fun _ he => Option.some.inj he ▸ rfl⟩

theorem directoryHandler_answers {uri pattern rest : List Char}
    (h : stripMatched pattern uri = some rest) (world : Node) (dir : Bytes) :
    Answers world uri (tryFindPath world dir (utf8 rest) indexFiles)
      (directoryHandler world dir uri pattern) := by
  unfold directoryHandler
  simp only [h]
  rcases tryFindPath world dir (utf8 rest) indexFiles with _ | _ | p
  · exact rfl
  · exact rfl
  · intro c hc
    unfold innerFileHandler
    simp only [hc]
    exact ⟨_, rfl, fun e he => by rw [he]; rfl⟩

theorem answers_cases {world : Node} {dir req : Bytes} {uri : List Char} {r : Resp}
    (h : Answers world uri (tryFindPath world dir req indexFiles) r) :
    r = .notFound ∨ r = .moved (utf8 uri ++ [47]) ∨
      ∃ ct c p dirPath, r = .ok ct c p ∧ canonicalDir world (trimEndSlash dir) = some dirPath ∧
        Spec.Inside world dirPath p c := by
  cases hf : tryFindPath world dir req indexFiles with
  | none => rw [hf] at h; exact .inl h
  | some l =>
    rw [hf] at h
    cases l with
    | directory => exact .inr (.inl h)
    | file p =>
      obtain ⟨dirPath, c, hd, hl, hin⟩ := tryFindPath_confined indexFiles_plain hf
      obtain ⟨ct, hr, -⟩ := h c hl
      exact .inr (.inr ⟨ct, c, p, dirPath, hr, hd, hin⟩)

theorem answers_confined {world : Node} {dir req : Bytes} {uri : List Char} {ct : Option Bytes}
    {body : Bytes} {p : List Name}
    (h : Answers world uri (tryFindPath world dir req indexFiles) (.ok ct body p)) :
    ∃ dirPath, canonicalDir world (trimEndSlash dir) = some dirPath ∧ Spec.Inside world dirPath p body := by
  rcases answers_cases h with hr | hr | ⟨_, _, _, dirPath, hr, hd, hin⟩
  · cases hr
  · cases hr
  · cases hr; exact ⟨dirPath, hd, hin⟩

theorem answers_ne_panic {world : Node} {dir req : Bytes} {uri : List Char} {r : Resp}
    (h : Answers world uri (tryFindPath world dir req indexFiles) r) : r ≠ .panic := by
  rcases answers_cases h with rfl | rfl | ⟨_, _, _, _, rfl, -⟩ <;> exact Resp.noConfusion

/-- `serve_as_file_path` (repaired) answers 404, or serves the regular file that `metadata` finds for
`directory/<text>`, where the text (the URI's, less a leading `/`) has no `..`. -/
theorem serveAsFilePath_cases (world : Node) (dir : Bytes) (uri : List Char) :
    serveAsFilePath world dir uri = .notFound ∨
    ∃ r ct c canon, hasDotDot r = false ∧
      metadata world (stripOneEndSlash dir ++ [47] ++ r) = some (canon, .file c) ∧
      serveAsFilePath world dir uri = .ok ct c canon := by
  unfold serveAsFilePath
  by_cases hdd : hasDotDot (utf8 uri) = true
  · rw [if_pos hdd]; exact .inl rfl
  rw [if_neg hdd]
  unfold serveAsFilePathUnchecked
  dsimp only
  -- the text joined under the directory: the URI's, less a leading `/`
  generalize hr : utf8 _ = r
  have hsuf : r <:+ utf8 uri := by
    rw [← hr]
    split
    · rw [utf8_cons]; exact List.suffix_append _ _
    · exact List.suffix_refl _
  cases hm : metadata world (stripOneEndSlash dir ++ [47] ++ r) with
  | none => exact .inl rfl
  | some cn =>
    obtain ⟨canon, c | _⟩ := cn
    · have hno := hasDotDot_infix hsuf.isInfix (Bool.eq_false_iff.mpr hdd)
      cases rawExtension (stripOneEndSlash dir ++ [47] ++ r) <;> exact .inr ⟨r, _, c, canon, hno, hm, rfl⟩
    · exact .inl rfl

/-! ### The escape of the unrepaired `serve_as_file_path` (D17), kept as a proved witness -/

/-- World: `/c` (the canary) and `/s/a`; the served directory is `s`. -/
def witnessWorld : Node :=
  .dir [([99], .file [67, 65, 78, 65, 82, 89]), ([115], .dir [([97], .file [1])])]

/-- `GET /../c` against directory `s`: the old handler answered 200 with the canary's bytes. -/
theorem serveAsFilePathUnchecked_escapes :
    serveAsFilePathUnchecked witnessWorld [115] ['/', '.', '.', '/', 'c'] =
      .ok none [67, 65, 78, 65, 82, 89] [[99]] := by
  rfl

theorem witness_outside : ¬ Spec.Inside witnessWorld [[115]] [[99]] [67, 65, 78, 65, 82, 89] := by
  rintro ⟨dnode, rel, -, h, -⟩
  simp at h

theorem serveAsFilePath_witness_repaired :
    serveAsFilePath witnessWorld [115] ['/', '.', '.', '/', 'c'] = .notFound := by
  rfl

/-! ### `String::remove(0)` never runs on an empty string for a URI as long as the pattern's literal prefix -/

theorem stripMatched_some {pattern uri : List Char}
    (h : (pattern.takeWhile (· ≠ '*')).length ≤ uri.length) : ∃ r, stripMatched pattern uri = some r := by
  induction pattern generalizing uri with
  | nil => exact ⟨uri, by simp [stripMatched]⟩
  | cons ch rest ih =>
    by_cases hc : ch = '*'
    · exact ⟨uri, by simp [stripMatched, hc]⟩
    · cases uri with
      | nil => simp [List.takeWhile, hc] at h
      | cons u us =>
        simp only [List.takeWhile, hc, ne_eq, not_false_eq_true, decide_true, List.length_cons,
          Nat.add_le_add_iff_right] at h
        obtain ⟨r, hr⟩ := ih h
        exact ⟨r, by simp [stripMatched, hc, hr]⟩

end Humphrey.Fs
