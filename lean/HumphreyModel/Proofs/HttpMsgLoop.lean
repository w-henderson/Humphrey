import HumphreyModel.Proofs.HttpMsgConnSpec
import HumphreyModel.Proofs.HttpMsgReq
import HumphreyModel.Proofs.ConnSim
/-
The connection loop (`serveLoop`) in lockstep with the executable specification (`Spec.checkLoop`).
-/
namespace Humphrey.Http
open Humphrey Humphrey.Bytes Humphrey.IO

/-- The local `done` of `Spec.checkLoop`: the verdict when nothing else is wrong. -/
def padVerdict (pad : Bool) : Option String := if pad then some "crlf-after-body" else none

theorem padVerdict_ok (pad : Bool) : padVerdict pad ∈ [none, some "crlf-after-body"] := by
  cases pad <;> simp [padVerdict]

theorem errorResponse_wf (c : Nat) (h : statusKnown c = true) : (errorResponse c).WF :=
  ⟨(show http11 ≠ [] by decide), (show ∀ b ∈ http11, b ≠ 32 ∧ b ≠ 13 ∧ b ≠ 10 by decide), h,
    fun x hx => nomatch hx⟩

theorem parseMsg_error (c : Nat) (h : statusKnown c = true) :
    ∃ m, Spec.parseMsg (serializeResponse (errorResponse c)) = some m ∧ m.code = c := by
  refine ⟨_, parseMsg_serialize _ (errorResponse_wf c h), ?_⟩
  exact (statusKnown_facts c h).1

section
variable {κ ω : Type} (cfg : ConnCfg κ ω) (idle : Reader → Option Reader) (fuel : Nat)

theorem checkLoop_idle (s s' : Reader) (pad : Bool) (hi : (if cfg.timeout then idle s else none) = some s') :
    Spec.checkLoop cfg idle (fuel + 1) s [serializeResponse (errorResponse 408)] false pad = padVerdict pad := by
  obtain ⟨m, hm, hc⟩ := parseMsg_error 408 (by decide)
  simp only [Spec.checkLoop, hi, hm, hc, Bool.not_false, and_self, if_true]
  rfl

theorem checkLoop_error (s : Reader) (pad : Bool) (hi : (if cfg.timeout then idle s else none) = none) (code : Nat)
    (hp : (parseRequest readerSource cfg.env s = .err .request ∧ code = 400) ∨
      (parseRequest readerSource cfg.env s = .err .timeout ∧ code = 408)) :
    Spec.checkLoop cfg idle (fuel + 1) s [serializeResponse (errorResponse code)] false pad = padVerdict pad := by
  rcases hp with ⟨hp, rfl⟩ | ⟨hp, rfl⟩
  · obtain ⟨m, hm, hc⟩ := parseMsg_error 400 (by decide)
    simp only [Spec.checkLoop, hi, hp, hm, hc, Bool.not_false, and_self, if_true]
    rfl
  · obtain ⟨m, hm, hc⟩ := parseMsg_error 408 (by decide)
    simp only [Spec.checkLoop, hi, hp, hm, hc, Bool.not_false, and_self, if_true]
    rfl

theorem checkLoop_nothing (s : Reader) (pad : Bool) (hi : (if cfg.timeout then idle s else none) = none)
    (hp : parseRequest readerSource cfg.env s = .panic ∨
      parseRequest readerSource cfg.env s = .err .disconnected ∨
      parseRequest readerSource cfg.env s = .err .stream) :
    Spec.checkLoop cfg idle (fuel + 1) s [] false pad = padVerdict pad := by
  rcases hp with hp | hp | hp <;> simp [Spec.checkLoop, hi, hp, padVerdict]

theorem checkLoop_upgrade (s s' : Reader) (req : Request) (pad panicked : Bool)
    (hi : (if cfg.timeout then idle s else none) = none)
    (hp : parseRequest readerSource cfg.env s = .ok (req, s'))
    (hu : req.headers.get hUpgrade = some websocketValue) :
    Spec.checkLoop cfg idle (fuel + 1) s [] panicked pad = padVerdict pad := by
  simp [Spec.checkLoop, hi, hp, hu, padVerdict]

theorem checkLoop_handlerPanic (s s' : Reader) (req : Request) (pad ka : Bool)
    (hi : (if cfg.timeout then idle s else none) = none)
    (hp : parseRequest readerSource cfg.env s = .ok (req, s'))
    (hu : req.headers.get hUpgrade ≠ some websocketValue)
    (hr : respond cfg req ka = none) :
    Spec.checkLoop cfg idle (fuel + 1) s [] true pad = padVerdict pad := by
  cases hg : getHandler cfg.app ((req.headers.get hHost).map cfg.decode) (cfg.decode req.uri) with
  | none => simp [respond, hg] at hr
  | some e =>
    by_cases hm : req.method = .options
    · simp [respond, hg, hm] at hr
    · cases hrun : cfg.run e.handler req with
      | response x => simp [respond, hg, hm, hrun] at hr
      | panic => simp [Spec.checkLoop, hi, hp, hu, hg, hm, hrun, padVerdict]

theorem checkLoop_response (s s' : Reader) (req : Request) (pad panicked ka : Bool) (resp : Response) (w : Bytes) (rest : List Bytes)
    (hi : (if cfg.timeout then idle s else none) = none)
    (hp : parseRequest readerSource cfg.env s = .ok (req, s'))
    (hu : req.headers.get hUpgrade ≠ some websocketValue)
    (hr : respond cfg req ka = some resp) :
    Spec.checkLoop cfg idle (fuel + 1) s (w :: rest) panicked pad =
      (if (Spec.checkResponse cfg req (kaOf req) w).isSome ∧
          Spec.checkResponse cfg req (kaOf req) w ≠ some "crlf-after-body" then
        Spec.checkResponse cfg req (kaOf req) w
      else if kaOf req then
        Spec.checkLoop cfg idle fuel s' rest panicked (pad || (Spec.checkResponse cfg req (kaOf req) w).isSome)
      else if rest.isEmpty ∧ !panicked then
        padVerdict (pad || (Spec.checkResponse cfg req (kaOf req) w).isSome)
      else some "bytes-after-close") := by
  cases hg : getHandler cfg.app ((req.headers.get hHost).map cfg.decode) (cfg.decode req.uri) with
  | none =>
    simp only [Spec.checkLoop, hi, hp, hu, hg, if_false, Bool.false_eq_true]
    rfl
  | some e =>
    by_cases hm : req.method = .options
    · simp only [Spec.checkLoop, hi, hp, hu, hg, hm, if_false, Bool.false_eq_true, ne_eq, not_true_eq_false,
        decide_false, Bool.false_and]
      rfl
    · cases hrun : cfg.run e.handler req with
      | panic => simp [respond, hg, hm, hrun] at hr
      | response x =>
        simp only [Spec.checkLoop, hi, hp, hu, hg, hrun, if_false, Bool.false_eq_true, Bool.and_false]
        rfl

end

/-- The loop ended here having added `out`, and the spec's verdict on `out` is `padVerdict`. -/
theorem loop_stop {κ ω : Type} {cfg : ConnCfg κ ω} {f2 : Nat} {s : Reader} {pad p : Bool}
    {w w' out : List Bytes} (hw : w' = w ++ out)
    (hc : Spec.checkLoop cfg readerIdle f2 s out p pad = padVerdict pad) :
    ∃ out, w' = w ++ out ∧
      Spec.checkLoop cfg readerIdle f2 s out p pad ∈ [none, some "crlf-after-body"] :=
  ⟨out, hw, hc ▸ padVerdict_ok pad⟩

/-- The loop and the spec walk the client stream together: whatever the loop adds to `written`
from reader state `s` on is accepted by `checkLoop` started at `s` (any two fuels that exceed the
bytes left: `serve` starts with `rest.length + 1`, `checkConn` with `rest.length + 2`; any pad flag). `Inv` is any invariant of the unread bytes that gives `ReqOk` of the
request parsed there and is kept when the loop goes round (the request was not an upgrade and asked
for keep-alive). -/
theorem loop_meets_spec {κ ω : Type} (cfg : ConnCfg κ ω) (hcfg : CfgOk cfg) (Inv : Bytes → Prop)
    (hstep : ∀ (t : Reader) (req : Request) (t' : Reader), Inv t.rest →
      parseRequest readerSource cfg.env t = .ok (req, t') →
      ReqOk req ∧ (req.headers.get hUpgrade ≠ some websocketValue → kaOf req = true → Inv t'.rest)) :
    ∀ (f1 f2 : Nat) (s : Reader) (w : List Bytes) (d : List Request) (pad : Bool),
      Inv s.rest → s.rest.length < f1 → s.rest.length < f2 →
      ∃ out, (serveLoop readerSource readerIdle cfg f1 s w d).written = w ++ out ∧
        Spec.checkLoop cfg readerIdle f2 s out
            (decide ((serveLoop readerSource readerIdle cfg f1 s w d).disposition = .handlerPanicked)) pad
          ∈ [none, some "crlf-after-body"] := by
  intro f1
  induction f1 with
  | zero => intro f2 s w d pad _ h; exact absurd h (Nat.not_lt_zero _)
  | succ f1 ih =>
    intro f2 s w d pad hinv hl1 hl2
    obtain ⟨f2, rfl⟩ := Nat.exists_eq_add_one_of_ne_zero (Nat.ne_of_gt (Nat.zero_lt_of_lt hl2))
    cases hi : (if cfg.timeout then readerIdle s else none) with
    | some s' =>
      simp only [serveLoop, hi]
      exact loop_stop rfl (checkLoop_idle cfg readerIdle f2 s s' pad hi)
    | none =>
      cases hp : parseRequest readerSource cfg.env s with
      | panic =>
        simp only [serveLoop, hi, hp]
        exact loop_stop (List.append_nil w).symm (checkLoop_nothing cfg readerIdle f2 s pad hi (.inl hp))
      | err e =>
        cases e with
        | request =>
          simp only [serveLoop, hi, hp]
          exact loop_stop rfl (checkLoop_error cfg readerIdle f2 s pad hi 400 (.inl ⟨hp, rfl⟩))
        | timeout =>
          simp only [serveLoop, hi, hp]
          exact loop_stop rfl (checkLoop_error cfg readerIdle f2 s pad hi 408 (.inr ⟨hp, rfl⟩))
        | disconnected =>
          simp only [serveLoop, hi, hp]
          exact loop_stop (List.append_nil w).symm
            (checkLoop_nothing cfg readerIdle f2 s pad hi (.inr (.inl hp)))
        | stream =>
          simp only [serveLoop, hi, hp]
          exact loop_stop (List.append_nil w).symm
            (checkLoop_nothing cfg readerIdle f2 s pad hi (.inr (.inr hp)))
      | ok p =>
        obtain ⟨req, s'⟩ := p
        by_cases hu : req.headers.get hUpgrade = some websocketValue
        · exact loop_stop (by simp [serveLoop, hi, hp, hu])
            (checkLoop_upgrade cfg readerIdle f2 s s' req pad _ hi hp hu)
        · rw [serveLoop_request readerSource readerIdle cfg f1 s s' req w d hi hp hu]
          cases hresp : respond cfg req (kaOf req) with
          | none =>
            exact loop_stop (List.append_nil w).symm
              (checkLoop_handlerPanic cfg readerIdle f2 s s' req pad _ hi hp hu hresp)
          | some resp =>
            have hok := checkResponse_ok cfg req (kaOf req) resp
              (respond_facts cfg hcfg req (hstep s req s' hinv hp).1 _ resp hresp)
            have hnot : ¬ ((Spec.checkResponse cfg req (kaOf req) (serializeResponse resp)).isSome = true ∧
                Spec.checkResponse cfg req (kaOf req) (serializeResponse resp) ≠ some "crlf-after-body") := by
              simp only [List.mem_cons, List.not_mem_nil, or_false] at hok
              rcases hok with h | h <;> simp [h]
            have hlt := (parseRequest_flat_shrinks cfg.env _ req _
              (parseRequest_reader_flat cfg.env s req s' hp)).2
            cases hka : kaOf req with
            | true =>
              simp only [if_true]
              obtain ⟨out, ho1, ho2⟩ := ih f2 s' (w ++ [serializeResponse resp]) (dispatchedAfter cfg req d)
                (pad || (Spec.checkResponse cfg req (kaOf req) (serializeResponse resp)).isSome)
                ((hstep s req s' hinv hp).2 hu hka) (Nat.lt_of_lt_of_le hlt (Nat.le_of_lt_succ hl1))
                (Nat.lt_of_lt_of_le hlt (Nat.le_of_lt_succ hl2))
              refine ⟨serializeResponse resp :: out, by simp [ho1], ?_⟩
              rw [checkLoop_response cfg readerIdle f2 s s' req pad _ _ resp _ out hi hp hu hresp]
              rw [hka] at ho2 hnot
              simp only [hka, if_true]
              rw [if_neg hnot]
              exact ho2
            | false =>
              refine ⟨[serializeResponse resp], by simp, ?_⟩
              rw [checkLoop_response cfg readerIdle f2 s s' req pad _ _ resp _ [] hi hp hu hresp]
              rw [hka] at hnot
              simp only [hka, Bool.false_eq_true, List.isEmpty_nil, reduceCtorEq,
                decide_false, Bool.not_false, and_self, if_true, if_false]
              rw [if_neg hnot]
              exact padVerdict_ok _

theorem ReqBoundary.suffix {env : Env} {s0 b : Bytes} (h : ReqBoundary env s0 b) : b <:+ s0 := by
  induction h with
  | start => exact List.suffix_refl _
  | next _ hp _ _ ih => exact (parseRequest_flat_shrinks env _ _ _ hp).1.trans ih

/-- **The loop meets its executable specification**, for every client stream, every segmentation
into reads and every placement of pauses: `checkConn` run on what `serve` wrote (and on whether it
ended in a handler panic) finds no violated clause other than the recorded CRLF pad after non-empty
bodies. All branches are covered: 408 on idle, 400/408 on parse errors, disconnects, parser panic,
WebSocket hand-off, OPTIONS, unrouted 404, handler responses, handler panics, keep-alive
continuation and close. The one hypothesis parsing cannot discharge, no bare CR in an echoed
version / `Connection` value, is asked only at the positions where the loop can actually start
parsing. -/
theorem serve_meets_spec_at_boundaries {κ ω : Type} (cfg : ConnCfg κ ω) (s : Reader) (hcfg : CfgOk cfg)
    (hcr : ∀ (b : Bytes) (req : Request) (b' : Bytes), ReqBoundary cfg.env s.rest b →
      parseRequest flatSource cfg.env b = .ok (req, b') → NoBareCR req) :
    Spec.checkConn cfg readerIdle s (serve readerSource readerIdle cfg s).written
      (decide ((serve readerSource readerIdle cfg s).disposition = .handlerPanicked))
      ∈ [none, some "crlf-after-body"] := by
  have hstep : ∀ (t : Reader) (req : Request) (t' : Reader), ReqBoundary cfg.env s.rest t.rest →
      parseRequest readerSource cfg.env t = .ok (req, t') →
      ReqOk req ∧ (req.headers.get hUpgrade ≠ some websocketValue → kaOf req = true →
        ReqBoundary cfg.env s.rest t'.rest) := by
    intro t req t' hb hp
    have hf := parseRequest_reader_flat cfg.env t req t' hp
    exact ⟨parseRequest_reqOk cfg.env _ req _ hf (hcr _ req _ hb hf), fun hu hka => .next hb hf hu hka⟩
  obtain ⟨out, ho1, ho2⟩ := loop_meets_spec cfg hcfg (ReqBoundary cfg.env s.rest) hstep
    (s.rest.length + 1) (s.rest.length + 2) s [] [] false .start (Nat.lt_add_one _)
    (Nat.lt_add_of_pos_right (by decide))
  have e : (serve readerSource readerIdle cfg s) =
      serveLoop readerSource readerIdle cfg (s.rest.length + 1) s [] [] := rfl
  rw [e, ho1, Spec.checkConn]
  exact ho2

end Humphrey.Http
