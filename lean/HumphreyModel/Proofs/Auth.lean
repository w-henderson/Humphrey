import HumphreyModel.Model.Auth
import HumphreyModel.Spec.Auth
/-!
Lemmas about the `Vec<User>` database of `Model/Auth.lean`: what each mutation does to the
user-indexed view (`getUserByUid`, `sessOf`), the invariant that uids are pairwise distinct, and which
operations can return a token.
-/
namespace Humphrey.Auth
set_option linter.unusedSectionVars false -- the sections' `DecidableEq` instances are not needed by every lemma

section
variable {U T H : Type} [DecidableEq U] [DecidableEq T]

def UidsDistinct (db : Db U T H) : Prop := db.Pairwise (fun x y => x.uid ≠ y.uid)

def sessOf (db : Db U T H) (u : U) : Option (T × Nat) := (getUserByUid db u).bind (·.session)

theorem getUserByUid_cons (a : User U T H) (l : Db U T H) (u : U) :
    getUserByUid (a :: l) u = if a.uid = u then some a else getUserByUid l u := by
  unfold getUserByUid
  by_cases h : a.uid = u <;> simp [h]

theorem getUserByUid_some {db : Db U T H} {u : U} {x : User U T H} (h : getUserByUid db u = some x) :
    x ∈ db ∧ x.uid = u := by
  unfold getUserByUid at h
  exact ⟨List.mem_of_find?_eq_some h, by simpa using List.find?_some h⟩

theorem getUserByUid_none {db : Db U T H} {u : U} (h : getUserByUid db u = none) :
    ∀ x ∈ db, x.uid ≠ u := by
  unfold getUserByUid at h
  intro x hx
  simpa using (List.find?_eq_none.mp h) x hx

theorem getUserByUid_of_mem {db : Db U T H} (hd : UidsDistinct db) {x : User U T H} (hx : x ∈ db) :
    getUserByUid db x.uid = some x := by
  unfold UidsDistinct at hd
  induction db with
  | nil => cases hx
  | cons a l ih =>
    rw [List.pairwise_cons] at hd
    rw [getUserByUid_cons]
    rcases List.mem_cons.mp hx with rfl | hx'
    · exact if_pos rfl
    · rw [if_neg (hd.1 x hx')]
      exact ih hd.2 hx'

theorem hasToken_iff {t : T} {x : User U T H} : hasToken t x = true ↔ ∃ e, x.session = some (t, e) := by
  unfold hasToken
  cases x.session with
  | none => simp
  | some s => obtain ⟨t', e⟩ := s; simp

theorem getUserByToken_some {db : Db U T H} {t : T} {x : User U T H} (h : getUserByToken db t = some x) :
    x ∈ db ∧ ∃ e, x.session = some (t, e) :=
  ⟨List.mem_of_find?_eq_some h, hasToken_iff.mp (List.find?_some h)⟩

theorem getUserByToken_none {db : Db U T H} {t : T} (h : getUserByToken db t = none) :
    ∀ x ∈ db, ∀ e, x.session ≠ some (t, e) :=
  fun x hx e hs => absurd (hasToken_iff.mpr ⟨e, hs⟩) (List.find?_eq_none.mp h x hx)

/-- `update_user` on a uid that is present: succeeds, overwrites what that uid finds, leaves every other
uid's entry and the list of uids alone. -/
theorem updateUser_spec (db : Db U T H) (x' : User U T H) (hex : getUserByUid db x'.uid ≠ none) :
    ∃ db', updateUser db x' = .ok db' ∧
      (∀ u', getUserByUid db' u' = if u' = x'.uid then some x' else getUserByUid db u') ∧
      db'.map (·.uid) = db.map (·.uid) := by
  induction db with
  | nil => exact absurd rfl hex
  | cons a l ih =>
    rw [getUserByUid_cons] at hex
    by_cases ha : a.uid = x'.uid
    · refine ⟨x' :: l, by simp [updateUser, ha], fun u' => ?_, by simp [ha]⟩
      rw [getUserByUid_cons, getUserByUid_cons, ha]
      by_cases hu : u' = x'.uid
      · simp [hu]
      · simp [hu, Ne.symm hu]
    · obtain ⟨l', hl', hget, hmap⟩ := ih (by rwa [if_neg ha] at hex)
      refine ⟨a :: l', by simp [updateUser, ha, hl'], fun u' => ?_, by simp [hmap]⟩
      rw [getUserByUid_cons, getUserByUid_cons, hget]
      by_cases hau : a.uid = u'
      · subst hau
        rw [if_pos rfl, if_neg ha, if_pos rfl]
      · rw [if_neg hau, if_neg hau]

theorem uidsDistinct_iff (db : Db U T H) : UidsDistinct db ↔ (db.map (·.uid)).Pairwise (· ≠ ·) := by
  unfold UidsDistinct
  rw [List.pairwise_map]

theorem uidsDistinct_of_map_eq {db db' : Db U T H} (h : db'.map (·.uid) = db.map (·.uid))
    (hd : UidsDistinct db) : UidsDistinct db' := by
  rw [uidsDistinct_iff] at hd ⊢
  rw [h]; exact hd

/-- `push`: an earlier entry with the same uid is found first. -/
theorem getUserByUid_append (db : Db U T H) (x : User U T H) (u' : U) :
    getUserByUid (db ++ [x]) u' = (getUserByUid db u').or (if x.uid = u' then some x else none) := by
  simp [getUserByUid, List.find?_append, List.find?_singleton]

theorem uidsDistinct_append {db : Db U T H} {x : User U T H} (hd : UidsDistinct db)
    (hx : getUserByUid db x.uid = none) : UidsDistinct (db ++ [x]) := by
  unfold UidsDistinct at hd ⊢
  rw [List.pairwise_append]
  refine ⟨hd, by simp, ?_⟩
  intro a ha b hb
  have : b = x := by simpa using hb
  subst this
  exact getUserByUid_none hx a ha

/-- `retain(|user| user.uid != uid)`. -/
theorem getUserByUid_filter (db : Db U T H) (u u' : U) :
    getUserByUid (db.filter (fun x => !decide (x.uid = u))) u' =
      if u' = u then none else getUserByUid db u' := by
  unfold getUserByUid
  rw [List.find?_filter]
  by_cases hu : u' = u
  · subst hu
    rw [if_pos rfl, List.find?_eq_none]
    intro x _
    by_cases h : x.uid = u' <;> simp [h]
  · rw [if_neg hu]
    congr 1
    funext x
    by_cases h : x.uid = u' <;> simp [h, hu]

theorem uidsDistinct_filter {db : Db U T H} (hd : UidsDistinct db) (p : User U T H → Bool) :
    UidsDistinct (db.filter p) :=
  List.Pairwise.sublist List.filter_sublist hd

theorem sessOf_eq {db : Db U T H} {u : U} {x : User U T H} (hx : getUserByUid db u = some x) :
    sessOf db u = x.session := by
  simp [sessOf, hx]

theorem sessOf_append (db : Db U T H) {x : User U T H} (hx : x.session = none) (u' : U) :
    sessOf (db ++ [x]) u' = sessOf db u' := by
  unfold sessOf
  rw [getUserByUid_append]
  cases getUserByUid db u' with
  | some y => rfl
  | none => by_cases h : x.uid = u' <;> simp [h, hx]

theorem sessOf_filter (db : Db U T H) (u u' : U) :
    sessOf (db.filter (fun x => !decide (x.uid = u))) u' = if u' = u then none else sessOf db u' := by
  unfold sessOf
  rw [getUserByUid_filter]
  by_cases h : u' = u <;> simp [h]

end

section
variable {U T H P S Pep : Type} [DecidableEq U] [DecidableEq T]

theorem createSessionWith_tok {db : Db U T H} {u : U} {l now : Nat} {t' t : T}
    (h : (createSessionWith db u l t' now).2 = .tok t) : t' = t := by
  simp only [createSessionWith] at h
  -- the one branch that returns `.tok` returns the drawn token
  repeat' (first | cases h | split at h)
  rfl

/-- Only the two session-creating calls can return a token, and it is the one they drew (so it is fresh). -/
theorem step_tok (hs : HashScheme P S Pep H) (cfg : Config Pep) (db : Db U T H) (op : Op U T P S)
    (now : Nat) (t : T) (h : (step hs cfg db op now).2 = .tok t) (du : List U) (dt : List T)
    (hf : Spec.FreshOp du dt op) : t ∉ dt ∧ Spec.drawT dt op = t :: dt := by
  cases op with
  | createSession u t' | createSessionWithLifetime u _ t' =>
    obtain rfl := createSessionWith_tok h
    exact ⟨hf, rfl⟩
  | createUser | removeUser | verify | userExists | refreshSession | invalidateSession | invalidateUserSession
  | getUidByToken | authRoute =>
    -- no branch of these returns `.tok`
    simp only [step, createUser, removeUserOp, refreshSession, invalidateSession, invalidateUserSession,
      getUidByToken, authRoute] at h
    repeat (first | cases h | split at h)

end
end Humphrey.Auth
