import HumphreyModel.Proofs.JsonTyped

/-!
`to_json` of a well-typed value has the documented shape (`shapeOk`), by induction on the type; so only
`Option` gives `null`.
-/
namespace Humphrey.JsonTyped
open Humphrey.Json (Value)

mutual
theorem shapeOk_toJson : (ty : Ty) → ∀ (v : TVal), hasTy ty v = true → shapeOk ty (toJson ty v) = true
  | .bool, v, ht | .num _, v, ht | .str, v, ht => by
    cases v <;> simp [hasTy] at ht <;> simp [toJson, shapeOk]
  | .opt t, v, ht => by
    cases v <;> simp only [hasTy, Bool.false_eq_true] at ht
    · simp [toJson, shapeOk]
    · rename_i w
      have ih := shapeOk_toJson t w ht
      simp only [toJson]
      generalize toJson t w = j at ih
      cases j <;> simp_all [shapeOk]
  | .vec t, v, ht => by
    cases v <;> simp only [hasTy, Bool.false_eq_true] at ht
    rename_i vs
    simp only [toJson, shapeOk, List.all_map, List.all_eq_true]
    intro w hw
    exact shapeOk_toJson t w (by simpa using (List.all_eq_true.mp ht) w hw)
  | .named fs, v, ht => by
    cases v <;> simp only [hasTy, Bool.false_eq_true] at ht
    rename_i vs
    simp only [toJson, shapeOk]
    exact shapeFields_toJson fs vs ht
  | .tuple ts, v, ht => by
    cases v <;> simp only [hasTy, Bool.false_eq_true] at ht
    rename_i vs
    simp only [toJson, shapeOk]
    exact shapeTuple_toJson ts vs ht
  | .enum names, v, ht => by
    cases v <;> simp only [hasTy, Bool.false_eq_true, decide_eq_true_eq] at ht
    rename_i i
    simp only [toJson, shapeOk]
    rw [← List.getElem_eq_getD (h := ht) []]
    simp
theorem shapeFields_toJson : (fs : List (Key × Ty)) → ∀ (vs : List TVal), hasTyFields fs vs = true →
    shapeFields fs (toJsonFields fs vs) = true
  | [], [], _ => by simp [toJsonFields, shapeFields]
  | [], _ :: _, h | _ :: _, [], h => by simp [hasTyFields] at h
  | (k, t) :: fs, v :: vs, h => by
    simp only [hasTyFields, Bool.and_eq_true] at h
    simp [toJsonFields, shapeFields, shapeOk_toJson t v h.1, shapeFields_toJson fs vs h.2]
theorem shapeTuple_toJson : (ts : List Ty) → ∀ (vs : List TVal), hasTyTuple ts vs = true →
    shapeTuple ts (toJsonTuple ts vs) = true
  | [], [], _ => by simp [toJsonTuple, shapeTuple]
  | [], _ :: _, h | _ :: _, [], h => by simp [hasTyTuple] at h
  | t :: ts, v :: vs, h => by
    simp only [hasTyTuple, Bool.and_eq_true] at h
    simp [toJsonTuple, shapeTuple, shapeOk_toJson t v h.1, shapeTuple_toJson ts vs h.2]
end

/-- only `Option` produces `null`: no other type has `null` among its shapes -/
theorem toJson_ne_null (t : Ty) (v : TVal) (ht : hasTy t v = true) (hno : t.isOpt = false) :
    toJson t v ≠ .null := by
  intro h
  have hs := shapeOk_toJson t v ht
  rw [h] at hs
  cases t <;> simp [shapeOk] at hs
  cases hno

end Humphrey.JsonTyped
