import HumphreyModel.Proofs.HttpMsgSer
import HumphreyModel.Proofs.ConnHyps
import HumphreyModel.Props.C01
/-
What the connection loop writes for one request (`respond`): the completed response is well-formed,
echoes the version, carries Date/Server, the route's CORS headers, and is framed by Content-Length
(or is a bodiless 204). These are the facts `Spec.checkResponse` asks for (`RespFacts`).
-/
namespace Humphrey.Http
open Humphrey Humphrey.Bytes

def corsOrigins (c : Cors) : Headers :=
  match c.origins with
  | none => [⟨hAcao, [42]⟩]
  | some os => if os.isEmpty then [] else [⟨hAcao, commaJoin os⟩]

def corsMethods (c : Cors) : Headers :=
  match c.methods with
  | some ms => if ms.isEmpty then [] else [⟨hAcam, commaJoin (ms.map Method.name)⟩]
  | none => []

def corsHeaders (c : Cors) : Headers :=
  match c.headers with
  | none => [⟨hAcah, [42]⟩]
  | some xs => if xs.isEmpty then [] else [⟨hAcah, commaJoin xs⟩]

/-- At most one header, and that one named `n`. -/
def Single (n : HName) (l : Headers) : Prop := l = [] ∨ ∃ v, l = [⟨n, v⟩]

theorem Single.get_ne {n m : HName} {l : Headers} (h : Single n l) (hm : m ≠ n) : l.get m = none := by
  rcases h with rfl | ⟨v, rfl⟩
  · rfl
  · rw [get_singleton, if_neg (fun e => hm e.symm)]

theorem Single.self {n : HName} {l : Headers} (h : Single n l) :
    ∀ x ∈ l, l.get n = some x.value ∧ x.name = n := by
  rcases h with rfl | ⟨v, rfl⟩
  · intro x hx; cases hx
  · intro x hx
    obtain rfl := List.mem_singleton.mp hx
    exact ⟨by rw [get_singleton, if_pos rfl], rfl⟩

theorem corsOrigins_single (c : Cors) : Single hAcao (corsOrigins c) := by
  unfold corsOrigins; split
  · exact .inr ⟨_, rfl⟩
  · split
    · exact .inl rfl
    · exact .inr ⟨_, rfl⟩

theorem corsMethods_single (c : Cors) : Single hAcam (corsMethods c) := by
  unfold corsMethods; split
  · split
    · exact .inl rfl
    · exact .inr ⟨_, rfl⟩
  · exact .inl rfl

theorem corsHeaders_single (c : Cors) : Single hAcah (corsHeaders c) := by
  unfold corsHeaders; split
  · exact .inr ⟨_, rfl⟩
  · split
    · exact .inl rfl
    · exact .inr ⟨_, rfl⟩

/-- One step of `set_headers`: the route's header `x` (none or one) goes in unless the name is taken. -/
def appendIfAbsent (n : HName) (x hs : Headers) : Headers := if (hs.get n).isNone then hs ++ x else hs

theorem appendIfAbsent_none {n : HName} {hs : Headers} (x : Headers) (h : hs.get n = none) :
    appendIfAbsent n x hs = hs ++ x := by
  rw [appendIfAbsent, h]; rfl

theorem ite_append {α : Type} (p : Prop) [Decidable p] (a l : List α) :
    (if p then a else a ++ l) = a ++ (if p then [] else l) := by
  split
  · exact (List.append_nil a).symm
  · rfl

/-- Each of the three `let`s of `Cors.setHeaders` is one `appendIfAbsent`. -/
theorem setHeaders_steps (c : Cors) (hs : Headers) :
    c.setHeaders hs = appendIfAbsent hAcah (corsHeaders c) (appendIfAbsent hAcam (corsMethods c) (appendIfAbsent hAcao (corsOrigins c) hs)) := by
  rcases c with ⟨_ | o, _ | m, _ | x⟩ <;>
    simp only [Cors.setHeaders, corsOrigins, corsMethods, corsHeaders, appendIfAbsent, ite_append, List.append_nil] <;> rfl

theorem setHeaders_eq (c : Cors) (hs : Headers) (h1 : hs.get hAcao = none) (h2 : hs.get hAcam = none)
    (h3 : hs.get hAcah = none) : c.setHeaders hs = hs ++ (corsOrigins c ++ (corsMethods c ++ corsHeaders c)) := by
  have g2 : (hs ++ corsOrigins c).get hAcam = none := by
    rw [get_append, h2, (corsOrigins_single c).get_ne (by decide)]; rfl
  have g3 : (hs ++ corsOrigins c ++ corsMethods c).get hAcah = none := by
    rw [get_append, get_append, h3, (corsOrigins_single c).get_ne (by decide),
      (corsMethods_single c).get_ne (by decide)]; rfl
  rw [setHeaders_steps, appendIfAbsent_none _ h1, appendIfAbsent_none _ g2, appendIfAbsent_none _ g3,
    List.append_assoc, List.append_assoc]

theorem setHeaders_nil (c : Cors) : c.setHeaders [] = corsOrigins c ++ (corsMethods c ++ corsHeaders c) := by
  have := setHeaders_eq c [] rfl rfl rfl
  simpa using this

theorem cors_lookup (c : Cors) (hs : Headers) (h1 : hs.get hAcao = none) (h2 : hs.get hAcam = none)
    (h3 : hs.get hAcah = none) :
    ∀ h ∈ c.setHeaders [], (hs ++ c.setHeaders []).get h.name = some h.value := by
  intro h hh
  rw [setHeaders_nil] at hh ⊢
  simp only [List.mem_append] at hh
  rcases hh with hh | hh | hh
  · obtain ⟨g, n⟩ := (corsOrigins_single c).self h hh
    rw [n, get_append, h1, get_append, g]; rfl
  · obtain ⟨g, n⟩ := (corsMethods_single c).self h hh
    rw [n, get_append, h2, get_append, (corsOrigins_single c).get_ne (by decide), get_append, g]; rfl
  · obtain ⟨g, n⟩ := (corsHeaders_single c).self h hh
    rw [n, get_append, h3, get_append, (corsOrigins_single c).get_ne (by decide), get_append,
      (corsMethods_single c).get_ne (by decide), g]; rfl

theorem cors_other (c : Cors) (m : HName) (h1 : m ≠ hAcao) (h2 : m ≠ hAcam) (h3 : m ≠ hAcah) :
    (c.setHeaders []).get m = none := by
  rw [setHeaders_nil, get_append, get_append, (corsOrigins_single c).get_ne h1, (corsMethods_single c).get_ne h2,
    (corsHeaders_single c).get_ne h3]; rfl

/-- What `set_headers` does to a header list that carries none of the three names: the route's
headers are added, each is what a lookup by its name finds, other lookups are unchanged. -/
theorem setHeaders_facts (c : Cors) (hs : Headers) (h1 : hs.get hAcao = none) (h2 : hs.get hAcam = none)
    (h3 : hs.get hAcah = none) :
    (∀ h ∈ c.setHeaders hs, h ∈ hs ∨ h ∈ c.setHeaders []) ∧
    (∀ h ∈ c.setHeaders [], (c.setHeaders hs).get h.name = some h.value) ∧
    ∀ m, m ≠ hAcao → m ≠ hAcam → m ≠ hAcah → (c.setHeaders hs).get m = hs.get m := by
  have hse := setHeaders_eq c hs h1 h2 h3
  rw [← setHeaders_nil] at hse
  rw [hse]
  refine ⟨fun h hm => List.mem_append.mp hm, cors_lookup c hs h1 h2 h3, ?_⟩
  intro m a b d
  rw [get_append, cors_other c m a b d, Option.or_none]

/-- What `checkResponse` needs to know about the response written for `req`. -/
structure RespFacts {κ ω : Type} (cfg : ConnCfg κ ω) (req : Request) (resp : Response) : Prop where
  wf : resp.WF
  version : resp.version = req.version
  date : (resp.headers.get hDate).isSome = true
  server : (resp.headers.get hServer).isSome = true
  unrouted : getHandler cfg.app ((req.headers.get hHost).map cfg.decode) (cfg.decode req.uri) = none →
    resp.status = 404
  handled : ∀ e x, getHandler cfg.app ((req.headers.get hHost).map cfg.decode) (cfg.decode req.uri) = some e →
    req.method ≠ .options → cfg.run e.handler req = .response x →
    resp.status = x.status ∧ resp.body = x.body
  cors : ∀ e, getHandler cfg.app ((req.headers.get hHost).map cfg.decode) (cfg.decode req.uri) = some e →
    ∀ h ∈ e.cors.setHeaders [], resp.headers.get h.name = some h.value
  framing : (resp.headers.get hContentLength = some (natToBytes resp.body.length) ∧
      resp.body.length < 18446744073709551616) ∨
    (resp.headers.get hContentLength = none ∧ resp.status = 204 ∧ resp.body = [])

theorem connValue_wf (req : Request) (hr : ReqOk req) :
    Header.WF ⟨hConnection, (req.headers.get hConnection).getD closeValue⟩ := by
  cases hc : req.headers.get hConnection with
  | none => exact ⟨HName.wf_known _ (by decide), by decide, by intro b t e; cases e; decide⟩
  | some c => exact hr.connection c hc

theorem server_wf : Header.WF ⟨hServer, hServerValue⟩ :=
  ⟨HName.wf_known _ (by decide), by decide, by intro b t e; cases e; decide⟩

theorem contentLength_wf (n : Nat) : Header.WF ⟨hContentLength, natToBytes n⟩ := by
  obtain ⟨_, hd, _⟩ := natToBytes_digits n
  refine ⟨HName.wf_known hContentLength (by decide), ?_, ?_⟩
  · intro b hb
    have := isDigit_facts b (hd b hb); exact ⟨this.2.2.1, this.2.2.2.1⟩
  · intro b t e
    have hb : isDigit b = true := hd b (by simp only at e; rw [e]; simp)
    simp only [isDigit, Bool.and_eq_true, decide_eq_true_eq] at hb
    constructor
    · intro e2; subst e2; revert hb; decide
    · intro e2; subst e2; revert hb; decide

/-- What `completeResponse` turns `r` into, when `r` is well-formed and sets no Content-Length. -/
structure Completed (now : Bytes) (req : Request) (r : Response) : Prop where
  wf : (completeResponse now req r).WF
  version : (completeResponse now req r).version = req.version
  status : (completeResponse now req r).status = r.status
  body : (completeResponse now req r).body = r.body
  date : ((completeResponse now req r).headers.get hDate).isSome = true
  server : ((completeResponse now req r).headers.get hServer).isSome = true
  contentLength : (completeResponse now req r).headers.get hContentLength = some (natToBytes r.body.length)
  keeps : ∀ m v, r.headers.get m = some v → (completeResponse now req r).headers.get m = some v

theorem completeResponse_facts (now : Bytes) (req : Request) (r : Response) (hreq : ReqOk req)
    (hnow : Header.WF ⟨hDate, now⟩) (hs : statusKnown r.status = true) (hh : ∀ h ∈ r.headers, h.WF)
    (hcl : r.headers.get hContentLength = none) : Completed now req r := by
  obtain ⟨_, _, _, _, hsv, hdt, _, hlen⟩ := completed_response_headers now req r
  refine ⟨⟨hreq.version_ne, hreq.version_clean, hs, ?_⟩, rfl, rfl, rfl, hdt, hsv, hlen hcl, ?_⟩
  · intro h hm
    simp only [completeResponse] at hm
    rcases mem_addIfAbsent _ _ _ _ hm with hm | rfl
    · rcases mem_addIfAbsent _ _ _ _ hm with hm | rfl
      · rcases mem_addIfAbsent _ _ _ _ hm with hm | rfl
        · rcases mem_addIfAbsent _ _ _ _ hm with hm | rfl
          · exact hh h hm
          · exact connValue_wf req hreq
        · exact server_wf
      · exact hnow
    · exact contentLength_wf _
  · intro m v hm
    simp only [completeResponse]
    exact get_addIfAbsent_some _ _ _ _ _ (get_addIfAbsent_some _ _ _ _ _
      (get_addIfAbsent_some _ _ _ _ _ (get_addIfAbsent_some _ _ _ _ _ hm)))

theorem errorResponse_404_len : (errorResponse 404).body.length < 18446744073709551616 := by decide

theorem respond_facts {κ ω : Type} (cfg : ConnCfg κ ω) (hcfg : CfgOk cfg) (req : Request)
    (hreq : ReqOk req) (ka : Bool) (resp : Response) (h : respond cfg req ka = some resp) :
    RespFacts cfg req resp := by
  have h404 : getHandler cfg.app ((req.headers.get hHost).map cfg.decode) (cfg.decode req.uri) = none →
      resp = completeResponse cfg.now req (errorResponse 404) → RespFacts cfg req resp := by
    intro hg e
    have f := completeResponse_facts cfg.now req (errorResponse 404) hreq
      hcfg.now (by decide) (by intro h hm; cases hm) rfl
    subst e
    exact ⟨f.wf, f.version, f.date, f.server, fun _ => f.status, (by intro e x he; rw [hg] at he; cases he),
      (by intro e he; rw [hg] at he; cases he),
      .inl ⟨by rw [f.contentLength, f.body], by rw [f.body]; exact errorResponse_404_len⟩⟩
  unfold respond at h
  simp only at h
  cases hg : getHandler cfg.app ((req.headers.get hHost).map cfg.decode) (cfg.decode req.uri) with
  | none =>
    simp only [hg] at h
    refine h404 hg ?_
    split at h <;> simp at h <;> exact h.symm
  | some e =>
    simp only [hg] at h
    have hc := hcfg.cors _ _ e hg
    by_cases hm : req.method = .options
    · simp only [hm, if_true, Option.some.injEq] at h
      subst h
      have base : ∀ m, hDate ≠ m → hServer ≠ m → hConnection ≠ m →
          Headers.get [⟨hDate, cfg.now⟩, ⟨hServer, hServerValue⟩,
            ⟨hConnection, if ka then keepAliveValue else closeValue⟩] m = none := by
        intro m a b c
        rw [get_cons, if_neg a, get_cons, if_neg b, get_cons, if_neg c]; rfl
      obtain ⟨k1, k2, k3⟩ := setHeaders_facts e.cors _ (base _ (by decide) (by decide) (by decide))
        (base _ (by decide) (by decide) (by decide)) (base _ (by decide) (by decide) (by decide))
      refine ⟨⟨hreq.version_ne, hreq.version_clean, (show statusKnown 204 = true by decide), ?_⟩, rfl,
        ?_, ?_, ?_, ?_, ?_, .inr ⟨?_, rfl, rfl⟩⟩
      · intro h hmem
        dsimp only at hmem
        rcases k1 h hmem with hb | hb
        · simp only [List.mem_cons, List.not_mem_nil, or_false] at hb
          rcases hb with rfl | rfl | rfl
          · exact hcfg.now
          · exact server_wf
          · refine ⟨HName.wf_known hConnection (by decide), ?_, ?_⟩
            · cases ka <;> decide
            · intro b t e; cases ka <;> cases e <;> decide
        · exact hc h hb
      · rw [k3 hDate (by decide) (by decide) (by decide), get_cons, if_pos rfl]; rfl
      · rw [k3 hServer (by decide) (by decide) (by decide), get_cons,
          if_neg (show ¬ hDate = hServer by decide), get_cons, if_pos rfl]; rfl
      · intro he; rw [hg] at he; cases he
      · intro e' x he hne; exact absurd hm hne
      · intro e' he
        cases hg.symm.trans he
        -- reduce `⟨_, _, hs, _⟩.headers` first: left to `exact`, the unifier unfolds `setHeaders`
        dsimp only
        exact k2
      · rw [k3 hContentLength (by decide) (by decide) (by decide)]
        exact base _ (by decide) (by decide) (by decide)
    · simp only [hm, if_false] at h
      cases hrun : cfg.run e.handler req with
      | panic => simp [hrun] at h
      | response x =>
        simp only [hrun, Option.some.injEq] at h
        have hx := hcfg.handlers _ _ _ hrun
        obtain ⟨k1, k2, k3⟩ := setHeaders_facts e.cors x.headers hx.no_acao hx.no_acam hx.no_acah
        have hwf : ∀ h ∈ e.cors.setHeaders x.headers, h.WF :=
          fun h hmem => (k1 h hmem).elim (hx.headers h) (hc h)
        have hcl : (e.cors.setHeaders x.headers).get hContentLength = none :=
          (k3 hContentLength (by decide) (by decide) (by decide)).trans hx.no_content_length
        -- from here on the header list is opaque, so that no unification looks into `setHeaders`
        generalize e.cors.setHeaders x.headers = H at h k2 hwf hcl
        have f := completeResponse_facts cfg.now req
          ⟨x.version, x.status, H, x.body⟩ hreq hcfg.now hx.status hwf hcl
        subst h
        refine ⟨f.wf, f.version, f.date, f.server, ?_, ?_, ?_,
          .inl ⟨by rw [f.contentLength, f.body], by rw [f.body]; exact hx.body_len⟩⟩
        · intro he; rw [hg] at he; cases he
        · intro e' x' he _ hr'
          cases hg.symm.trans he
          cases hrun.symm.trans hr'
          exact ⟨f.status, f.body⟩
        · intro e' he h hmem
          cases hg.symm.trans he
          exact f.keeps _ _ (k2 h hmem)

end Humphrey.Http
