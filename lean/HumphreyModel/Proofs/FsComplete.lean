import HumphreyModel.Proofs.FsHandlers
/-!
Completeness for C06: a request that denotes the path of an object inside the directory is resolved
to exactly that object (`tryFindPath_plain`, `tryFindPath_index`), so every handler that `Answers` for
`try_find_path` serves the file intact, redirects a directory to its slash form and applies the index
rule (`answers_complete`, `answers_redirect_and_index`).
-/
namespace Humphrey.Fs
open Humphrey Humphrey.Fs.Spec

theorem slashPath_append (cs : List Name) (f : Name) : slashPath cs ++ f = joinPath (cs ++ [f]) := by
  induction cs with
  | nil => rfl
  | cons n rest ih =>
    rw [slashPath, List.append_assoc, List.cons_append, ih]
    cases rest <;> rfl

theorem components_slashPath_append {cs : List Name} (h : ∀ n ∈ cs, 47 ∉ n) {f : Bytes} (hf : 47 ∉ f) :
    components (slashPath cs ++ f) = cs ++ [f] := by
  induction cs with
  | nil => exact Bytes.splitOn_no_sep hf
  | cons n rest ih =>
    have ih := ih fun x hx => h x (List.mem_cons_of_mem _ hx)
    unfold components at ih ⊢
    rw [slashPath, List.append_assoc, List.cons_append, Bytes.splitOn_append_sep _ (h n (by simp)), ih,
      List.cons_append]

theorem components_joinPath {cs : List Name} (hne : cs ≠ []) (h : ∀ n ∈ cs, 47 ∉ n) :
    components (joinPath cs) = cs := by
  obtain ⟨init, name, rfl⟩ := (List.eq_nil_or_concat cs).resolve_left hne
  rw [List.concat_eq_append] at h ⊢
  rw [← slashPath_append]
  exact components_slashPath_append (fun n hn => h n (List.mem_append_left _ hn)) (h name (by simp))

theorem endsWithSlash_sep (a s : Bytes) :
    endsWithSlash (a ++ 47 :: s) = (s.isEmpty || endsWithSlash s) := by
  rcases List.eq_nil_or_concat s with rfl | ⟨s', x, rfl⟩ <;>
    simp [endsWithSlash, List.getLast?_append, List.getLast?_cons]

/-- The text of a non-empty plain path ends with its last name, so not with a slash. -/
theorem joinPath_last {cs : List Name} (hne : cs ≠ []) (h : ∀ n ∈ cs, n ≠ [] ∧ 47 ∉ n) :
    joinPath cs ≠ [] ∧ endsWithSlash (joinPath cs) = false := by
  obtain ⟨init, name, rfl⟩ := (List.eq_nil_or_concat cs).resolve_left hne
  obtain ⟨hn, hs⟩ := h name (by simp)
  rw [List.concat_eq_append, ← slashPath_append, endsWithSlash, List.getLast?_append,
    List.getLast?_eq_some_getLast hn]
  refine ⟨List.append_ne_nil_of_right_ne_nil _ hn, ?_⟩
  have hx : name.getLast hn ≠ 47 := fun e => hs (e ▸ List.getLast_mem hn)
  simpa using hx

theorem slashPath_last (cs : List Name) :
    (endsWithSlash (slashPath cs) || (slashPath cs).isEmpty) = true := by
  induction cs with
  | nil => rfl
  | cons n rest ih => rw [slashPath, endsWithSlash_sep, Bool.or_comm (slashPath rest).isEmpty, ih]; rfl

theorem trimStartSlash_joinPath {cs : List Name} (h : ∀ n ∈ cs, PlainName n) :
    trimStartSlash (joinPath cs) = joinPath cs := by
  cases cs with
  | nil => rfl
  | cons n rest =>
    obtain ⟨hne, h47, -, -⟩ := h n (by simp)
    cases n with
    | nil => exact absurd rfl hne
    | cons x n' =>
      have hx : ¬ (x == 47) = true := by simpa using fun e : x = 47 => h47 (by simp [e])
      cases rest <;> exact List.dropWhile_cons_of_neg hx

theorem plain_contains_zero {n : Name} (h : 0 ∉ n) : n.contains 0 = false :=
  contains_of_not_mem h

theorem step_plain {world : Node} {cur : List Name} {es : List (Name × Node)} {c : Name}
    (hcur : lookup world cur = some (.dir es)) (hc : PlainName c ∧ c ≠ [46, 46]) :
    step world cur c = (findEntry c es).map fun _ => cur ++ [c] := by
  obtain ⟨⟨hne, -, h0, hdot⟩, hdd⟩ := hc
  unfold step
  simp only [hcur, plain_contains_zero h0, hne, hdot, hdd, lookup_snoc hcur, or_self, if_false,
    Bool.false_eq_true]
  cases findEntry c es <;> rfl

theorem step_file {world : Node} {cur : List Name} {b : Bytes} (hcur : lookup world cur = some (.file b))
    (c : Name) : step world cur c = none := by
  unfold step; simp only [hcur]

/-- Over plain names the path walk is the descent. -/
theorem walk_plain {world : Node} {cs : List Name} (hplain : ∀ n ∈ cs, PlainName n ∧ n ≠ [46, 46])
    {cur : List Name} {n0 : Node} (hcur : lookup world cur = some n0) :
    walk world cur cs = (lookup n0 cs).map fun _ => cur ++ cs := by
  induction cs generalizing cur n0 with
  | nil => simp [walk_nil]
  | cons c cs ih =>
    rw [walk_cons]
    cases n0 with
    | file _ => rw [step_file hcur]; rfl
    | dir es =>
      rw [step_plain hcur (hplain c (List.mem_cons_self ..)), lookup_dir_cons]
      cases hf : findEntry c es with
      | none => rfl
      | some ch =>
        have hnext : lookup world (cur ++ [c]) = some ch := by rw [lookup_snoc hcur, hf]
        simp [ih (fun x hx => hplain x (List.mem_cons_of_mem _ hx)) hnext]

theorem metadata_plain {world : Node} {d : Bytes} {dirPath : List Name} {dnode : Node}
    (hdir : canonicalDir world d = some dirPath) (hdn : lookup world dirPath = some dnode)
    {cs : List Name} (hplain : ∀ n ∈ cs, PlainName n ∧ n ≠ [46, 46]) {r : Bytes}
    (hr : components r = cs) :
    metadata world (d ++ [47] ++ r) = (lookup dnode cs).map fun m => (dirPath ++ cs, m) := by
  unfold canonicalDir at hdir
  rw [metadata_eq, components_join, walk_append, hdir, hr, Option.bind_some, walk_plain hplain hdn]
  cases hobj : lookup dnode cs with
  | none => rfl
  | some m => simp [lookup_join hdn hobj]

theorem joinPath_no_dotdot {cs : List Name} (hne : cs ≠ []) (h47 : ∀ n ∈ cs, 47 ∉ n)
    (hdd : hasDotDot (joinPath cs) = false) : ∀ n ∈ cs, n ≠ [46, 46] :=
  fun n hn => no_dotdot_component hdd n (by rw [components_joinPath hne h47]; exact hn)

/-- **`try_find_path` finds the object at a plain path** requested without trailing slash: a regular
file is located at its canonical path, a directory is reported as such. -/
theorem tryFindPath_plain {world : Node} {dir req : Bytes} {index : List Bytes} {d : Bytes}
    {dirPath : List Name} {dnode : Node} {cs : List Name} {obj : Node}
    (hdec : Percent.decode req = some d) (hutf : Bytes.utf8Valid d = true)
    (hdd : hasDotDot d = false) (hcol : 58 ∉ d)
    (hpath : trimStartSlash d = joinPath cs) (hne : cs ≠ []) (hplain : ∀ n ∈ cs, PlainName n)
    (hdir : canonicalDir world (trimEndSlash dir) = some dirPath)
    (hdn : lookup world dirPath = some dnode) (hobj : lookup dnode cs = some obj) :
    tryFindPath world dir req index =
      match obj with
      | .file _ => some (.file (dirPath ++ cs))
      | .dir _ => some .directory := by
  have h47 : ∀ n ∈ cs, 47 ∉ n := fun n hn => (hplain n hn).2.1
  have hnd := joinPath_no_dotdot hne h47 (hpath ▸ hasDotDot_trimStartSlash hdd)
  obtain ⟨hne', hslash⟩ := joinPath_last hne (fun n hn => ⟨(hplain n hn).1, h47 n hn⟩)
  have hempty : (joinPath cs).isEmpty = false := by simpa using hne'
  have hc := contains_of_not_mem hcol
  unfold tryFindPath
  simp only [hdec, hutf, hdd, hpath, hslash, hempty, hc, hobj,
    metadata_plain hdir hdn (fun n hn => ⟨hplain n hn, hnd n hn⟩) (components_joinPath hne h47)]
  cases obj <;> rfl

/-- **The index rule of `try_find_path`**: a directory requested in its slash form. -/
theorem tryFindPath_index {world : Node} {dir req : Bytes} {d : Bytes}
    {dirPath : List Name} {dnode : Node} {cs : List Name} {es : List (Name × Node)}
    (hdec : Percent.decode req = some d) (hutf : Bytes.utf8Valid d = true)
    (hdd : hasDotDot d = false) (hcol : 58 ∉ d)
    (hpath : trimStartSlash d = slashPath cs) (hplain : ∀ n ∈ cs, PlainName n)
    (hdir : canonicalDir world (trimEndSlash dir) = some dirPath)
    (hdn : lookup world dirPath = some dnode) (hobj : lookup dnode cs = some (.dir es)) :
    tryFindPath world dir req indexFiles =
      (indexOf es).map (fun nc => Located.file (dirPath ++ cs ++ [nc.1])) := by
  have hc := contains_of_not_mem hcol
  have h47 : ∀ n ∈ cs, 47 ∉ n := fun n hn => (hplain n hn).2.1
  have hnd : ∀ n ∈ cs ++ [[]], n ≠ [46, 46] := by
    refine joinPath_no_dotdot (by simp) (List.forall_mem_append.mpr ⟨h47, by simp⟩) ?_
    rw [← slashPath_append, List.append_nil, ← hpath]; exact hasDotDot_trimStartSlash hdd
  -- `metadata` of `directory/<slash form><f>` is the entry `f` of the directory at `cs`
  have hmeta : ∀ f ∈ [indexHtml, indexHtm],
      metadata world (trimEndSlash dir ++ [47] ++ slashPath cs ++ f) =
        (findEntry f es).map fun n => (dirPath ++ cs ++ [f], n) := by
    intro f hf
    have hp : ∀ n ∈ cs ++ [f], PlainName n ∧ n ≠ [46, 46] := List.forall_mem_append.mpr
      ⟨fun n hn => ⟨hplain n hn, hnd n (List.mem_append_left _ hn)⟩,
        by simpa using indexFiles_plainName f hf⟩
    rw [List.append_assoc, metadata_plain hdir hdn hp
      (components_slashPath_append h47 (indexFiles_plainName f hf).1.2.1), lookup_snoc hobj,
      List.append_assoc]
  unfold tryFindPath
  simp only [hdec, hutf, hdd, hpath, hc, slashPath_last cs, indexFiles_eq]
  simp only [findIndex, hmeta indexHtml (by simp), hmeta indexHtm (by simp)]
  unfold indexOf
  rw [← findEntry_eq_entryOf, ← findEntry_eq_entryOf]
  -- both sides are the same decision on the two entries: absent, a file, or a directory
  rcases findEntry indexHtml es with _ | ⟨_ | _⟩ <;>
    rcases findEntry indexHtm es with _ | ⟨_ | _⟩ <;> rfl

theorem splitLastDot_none {e : Bytes} (h : 46 ∉ e) (pre : Bytes) : splitLastDot e pre = none := by
  induction e generalizing pre with
  | nil => simp [splitLastDot]
  | cons b rest ih =>
    simp only [List.mem_cons, not_or] at h
    have hb : b ≠ 46 := fun e => h.1 e.symm
    simp [splitLastDot, ih h.2, hb]

theorem splitLastDot_spec (before e pre : Bytes) (h : 46 ∉ e) :
    splitLastDot (before ++ 46 :: e) pre = some (pre.reverse ++ before, e) := by
  induction before generalizing pre with
  | nil => simp [splitLastDot, splitLastDot_none h]
  | cons x bs ih => simp [splitLastDot, ih]

/-- `Path::extension` agrees with the specification's notion of extension. -/
theorem nameExtension_of_hasExt {name e : Bytes} (h : HasExt name e) (hdd : name ≠ [46, 46]) :
    nameExtension name = some e := by
  obtain ⟨before, hb, rfl, he⟩ := h
  unfold nameExtension
  simp [hdd, splitLastDot_spec before e [] he, hb]

theorem canonExtension_snoc (p : List Name) (name : Name) :
    canonExtension (p ++ [name]) = nameExtension name := by
  simp [canonExtension]

theorem rawFileName_join {d : Bytes} {init : List Name} {name : Name}
    (hplain : ∀ n ∈ init ++ [name], PlainName n) (hdd : name ≠ [46, 46]) :
    rawFileName (d ++ [47] ++ joinPath (init ++ [name])) = some name := by
  have h47 : ∀ n ∈ init ++ [name], 47 ∉ n := fun n hn => (hplain n hn).2.1
  obtain ⟨hne, -, -, hdot⟩ := hplain name (by simp)
  unfold rawFileName
  rw [components_join, components_joinPath (by simp) h47, ← List.append_assoc, List.filter_append]
  have hkeep : List.filter (fun c => !(c == [] || c == [46])) [name] = [name] :=
    List.filter_cons_of_pos (by simp [hne, hdot])
  rw [hkeep, List.getLast?_concat]
  simp [hdd]

theorem servedIntact_ok {name : Name} (hnd : name ≠ [46, 46]) {ct : Option Bytes} {c : Bytes}
    {p : List Name} (h : ∀ e, nameExtension name = some e → ct = some (mimeFromExtension e)) :
    ServedIntact (.ok ct c p) c name :=
  ⟨ct, p, rfl, fun e he => h e (nameExtension_of_hasExt he hnd)⟩

theorem indexOf_mem {es : List (Name × Node)} {n : Name} {c : Bytes} (h : indexOf es = some (n, c)) :
    (n = indexHtml ∨ n = indexHtm) ∧ entryOf es n = some (.file c) := by
  unfold indexOf at h
  split at h
  next h1 => cases h; exact ⟨.inl rfl, h1⟩
  next =>
    split at h
    next h2 => cases h; exact ⟨.inr rfl, h2⟩
    next => cases h

/-- A handler that answers for `try_find_path` serves every file inside the directory intact, for
every spelling `req` of its path `init ++ [name]`. -/
theorem answers_complete {world : Node} {dir req d : Bytes} {uri : List Char} {r : Resp}
    (h : Answers world uri (tryFindPath world dir req indexFiles) r)
    {dirPath : List Name} {dnode : Node} {init : List Name} {name : Name} {c : Bytes}
    (hdir : canonicalDir world (trimEndSlash dir) = some dirPath)
    (hdn : Descends world dirPath dnode) (hfile : subtree dnode (init ++ [name]) c)
    (hplain : ∀ n ∈ init ++ [name], PlainName n)
    (hdec : Percent.decode req = some d) (hpath : trimStartSlash d = joinPath (init ++ [name]))
    (hutf : Bytes.utf8Valid d = true) (hdd : hasDotDot d = false) (hcol : 58 ∉ d) :
    ServedIntact r c name := by
  have hdn' := (lookup_iff_descends _ _ _).mpr hdn
  have hobj := (lookup_iff_descends _ _ _).mpr hfile
  rw [tryFindPath_plain hdec hutf hdd hcol hpath (by simp) hplain hdir hdn' hobj] at h
  obtain ⟨ct, rfl, hct⟩ := h c (lookup_join hdn' hobj)
  have hnd := joinPath_no_dotdot (by simp) (fun n hn => (hplain n hn).2.1)
    (hpath ▸ hasDotDot_trimStartSlash hdd) name (by simp)
  exact servedIntact_ok hnd fun e he => hct e (by rw [← List.append_assoc, canonExtension_snoc, he])

/-- The same handler on a directory inside the served one, at plain components `cs`: requested
without trailing slash it is redirected to the slash form; requested in its slash form it is answered
by its index file, as `text/html`. -/
theorem answers_redirect_and_index {world : Node} {dir req d : Bytes} {uri : List Char} {r : Resp}
    (h : Answers world uri (tryFindPath world dir req indexFiles) r)
    {dirPath : List Name} {dnode : Node} {cs : List Name} {es : List (Name × Node)}
    (hdir : canonicalDir world (trimEndSlash dir) = some dirPath)
    (hdn : Descends world dirPath dnode) (hobj : Descends dnode cs (.dir es))
    (hplain : ∀ n ∈ cs, PlainName n) (hdec : Percent.decode req = some d)
    (hutf : Bytes.utf8Valid d = true) (hdd : hasDotDot d = false) (hcol : 58 ∉ d) :
    (cs ≠ [] → trimStartSlash d = joinPath cs → r = .moved (utf8 uri ++ [47])) ∧
    (trimStartSlash d = slashPath cs →
      r = match indexOf es with
          | some nc => .ok (some [116, 101, 120, 116, 47, 104, 116, 109, 108]) nc.2 (dirPath ++ cs ++ [nc.1])
          | none => .notFound) := by
  have hdn' := (lookup_iff_descends _ _ _).mpr hdn
  have hobj' := (lookup_iff_descends _ _ _).mpr hobj
  refine ⟨fun hne hpath => ?_, fun hpath => ?_⟩
  · rw [tryFindPath_plain hdec hutf hdd hcol hpath hne hplain hdir hdn' hobj'] at h
    exact h
  rw [tryFindPath_index hdec hutf hdd hcol hpath hplain hdir hdn' hobj'] at h
  cases hio : indexOf es with
  | none => rw [hio] at h; exact h
  | some nc =>
    obtain ⟨hn, he⟩ := indexOf_mem hio
    rw [hio] at h
    obtain ⟨ct, rfl, hct⟩ := h nc.2
      ((lookup_snoc (lookup_join hdn' hobj') nc.1).trans ((findEntry_eq_entryOf nc.1 es).trans he))
    rw [canonExtension_snoc] at hct
    rcases hn with hn | hn
    · rw [hct [104, 116, 109, 108] (by rw [hn]; rfl)]; rfl
    · rw [hct [104, 116, 109] (by rw [hn]; rfl)]; rfl

theorem stripPrefix_append (pre tail : List Char) : stripPrefix pre (pre ++ tail) = some tail := by
  induction pre with
  | nil => simp [stripPrefix]
  | cons a pre ih => simp [stripPrefix, ih]

theorem stripStarSuffix_snoc (pre : List Char) : stripStarSuffix (pre ++ ['*']) = pre := by
  simp [stripStarSuffix]

theorem stripMatched_append {pre : List Char} (h : '*' ∉ pre) (rest tail : List Char) :
    stripMatched (pre ++ '*' :: rest) (pre ++ tail) = some tail := by
  induction pre with
  | nil => simp [stripMatched]
  | cons a pre ih =>
    simp only [List.mem_cons, not_or] at h
    have ha : a ≠ '*' := fun e => h.1 e.symm
    simp [stripMatched, ha, ih h.2]

/-- `serve_dir` on a URI under its route `pre*` answers for the rest of the URI. -/
theorem serveDir_routed (world : Node) (dir : Bytes) (pre tail : List Char) :
    Answers world (pre ++ tail) (tryFindPath world dir (utf8 tail) indexFiles)
      (serveDir world dir (pre ++ tail) (pre ++ ['*'])) :=
  serveDir_answers (by rw [stripStarSuffix_snoc, stripPrefix_append]; rfl) world dir

/-- `directory_handler` on a URI under its route `pre*rest` answers for the rest of the URI. -/
theorem directoryHandler_routed {pre : List Char} (hpre : '*' ∉ pre) (world : Node) (dir : Bytes)
    (rest tail : List Char) :
    Answers world (pre ++ tail) (tryFindPath world dir (utf8 tail) indexFiles)
      (directoryHandler world dir (pre ++ tail) (pre ++ '*' :: rest)) :=
  directoryHandler_answers (stripMatched_append hpre rest tail) world dir

end Humphrey.Fs
