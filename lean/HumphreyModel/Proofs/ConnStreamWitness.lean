import HumphreyModel.Props.C01Spec
import HumphreyModel.Proofs.ConnStream
/-
The witness that the clean-stream hypothesis of `Props/C01Stream.lean` (and `hcr` of
`serve_meets_spec`) is necessary: the stream `GET / A\rB\r\n\r\n` served by `sampleCfg`
(`Props/C01Spec.lean`). `serve` and `checkConn` are evaluated by rewriting with the step lemmas of
`Proofs/HttpMsgLoop.lean` (`decide` cannot unfold the well-founded `matchStar` behind `getHandler`);
everything below the step lemmas is closed by `rfl`/`decide`.
-/
namespace Humphrey.Http
open Humphrey Humphrey.Bytes Humphrey.IO Humphrey.Glob

/-- `GET / A\rB\r\n\r\n`: a request line whose version `A\rB` contains a bare CR. -/
def bareCRStream : Bytes := [71, 69, 84, 32, 47, 32, 65, 13, 66, 13, 10, 13, 10]
def bareCRReq : Request := ⟨.get, [47], [], [65,13,66], [], none, ⟨[49], [], 80⟩⟩
def bareCRResp : Response := completeResponse sampleCfg.now bareCRReq
  { (⟨http11, 200, [⟨⟨[120, 45, 97]⟩, [118]⟩], [120]⟩ : Response) with
    headers := ({ origins := none, methods := some [.get], headers := some [] } : Cors).setHeaders [⟨⟨[120, 45, 97]⟩, [118]⟩] }

theorem bareCR_parse : parseRequest readerSource sampleCfg.env ⟨[], [bareCRStream]⟩ = .ok (bareCRReq, ⟨[], []⟩) := by
  rfl

theorem bareCR_handler : getHandler sampleCfg.app ((bareCRReq.headers.get hHost).map sampleCfg.decode) (sampleCfg.decode bareCRReq.uri)
   = some ⟨['*'], (), { origins := none, methods := some [.get], headers := some [] }⟩ := by
  simp [getHandler, sampleCfg, bareCRReq, Headers.get, wildcardMatch, matchNoStar, matchStar, allStars]

theorem bareCR_respond : respond sampleCfg bareCRReq false = some bareCRResp := by
  unfold respond
  simp only [bareCR_handler]
  rfl

-- A test vector; `decide` without `+kernel` is slow on it.
theorem bareCR_notmsg : Spec.parseMsg (serializeResponse bareCRResp) = none := by decide +kernel

theorem bareCR_serve : serve readerSource readerIdle sampleCfg ⟨[], [bareCRStream]⟩ =
    ⟨[serializeResponse bareCRResp], [bareCRReq], none, .closed, ⟨[], []⟩⟩ := by
  have e : serve readerSource readerIdle sampleCfg ⟨[], [bareCRStream]⟩ =
      serveLoop readerSource readerIdle sampleCfg (13 + 1) ⟨[], [bareCRStream]⟩ [] [] := rfl
  rw [e, serveLoop_request readerSource readerIdle sampleCfg 13 ⟨[], [bareCRStream]⟩ ⟨[], []⟩ bareCRReq [] []
    rfl bareCR_parse (by decide)]
  have hk : kaOf bareCRReq = false := rfl
  rw [hk, bareCR_respond]
  simp only [Bool.false_eq_true, if_false, List.nil_append, dispatchedAfter, bareCR_handler]
  rfl

theorem bareCR_verdict :
    Spec.checkConn sampleCfg readerIdle ⟨[], [bareCRStream]⟩
      (serve readerSource readerIdle sampleCfg ⟨[], [bareCRStream]⟩).written
      (decide ((serve readerSource readerIdle sampleCfg ⟨[], [bareCRStream]⟩).disposition = .handlerPanicked))
      = some "response-not-an-http-message" := by
  rw [bareCR_serve]
  have e : Spec.checkConn sampleCfg readerIdle ⟨[], [bareCRStream]⟩ [serializeResponse bareCRResp] false =
    Spec.checkLoop sampleCfg readerIdle (14 + 1) ⟨[], [bareCRStream]⟩ [serializeResponse bareCRResp] false false := rfl
  simp only [reduceCtorEq, decide_false]
  rw [e, checkLoop_response sampleCfg readerIdle 14 ⟨[], [bareCRStream]⟩ ⟨[], []⟩ bareCRReq false false false
    bareCRResp _ [] rfl bareCR_parse (by decide) bareCR_respond]
  have hc : Spec.checkResponse sampleCfg bareCRReq (kaOf bareCRReq) (serializeResponse bareCRResp) =
      some "response-not-an-http-message" := by
    unfold Spec.checkResponse
    rw [bareCR_notmsg]
  rw [hc]
  exact if_pos ⟨rfl, by simp⟩

/-- `POST / H\r\nContent-Length: 3\r\n\r\n` followed by the 3-byte body `\rA\r` (two bare CRs). -/
def binaryBodyStream : Bytes :=
  [80, 79, 83, 84, 32, 47, 32, 72, 13, 10,
   67, 111, 110, 116, 101, 110, 116, 45, 76, 101, 110, 103, 116, 104, 58, 32, 51, 13, 10, 13, 10,
   13, 65, 13]

def binaryBodyReq : Request :=
  ⟨.post, [47], [], [72], [⟨hContentLength, [51]⟩], some [13, 65, 13], ⟨[49], [], 80⟩⟩

theorem binaryBody_parse :
    parseRequest flatSource sampleCfg.env binaryBodyStream = .ok (binaryBodyReq, []) := by rfl

theorem binaryBody_boundaries (b : Bytes) (h : ReqBoundary sampleCfg.env binaryBodyStream b) :
    b = binaryBodyStream := by
  induction h with
  | start => rfl
  | next _ hp _ hka ih =>
    subst ih
    rw [binaryBody_parse] at hp
    simp only [Outcome.ok.injEq, Prod.mk.injEq] at hp
    rw [← hp.1] at hka
    exact absurd hka (by decide)

theorem binaryBody_headsClean : HeadsClean sampleCfg.env binaryBodyStream := by
  intro b req b' head hb hp hsplit
  have := binaryBody_boundaries b hb
  subst this
  rw [binaryBody_parse] at hp
  simp only [Outcome.ok.injEq, Prod.mk.injEq] at hp
  obtain ⟨rfl, rfl⟩ := hp
  have e : binaryBodyStream = binaryBodyStream.take 31 ++ binaryBodyReq.content.getD [] ++ [] := by decide
  rw [e, List.append_assoc, List.append_assoc] at hsplit
  have := List.append_cancel_right hsplit
  rw [← this, ← cleanStream_decidable]
  decide

end Humphrey.Http
