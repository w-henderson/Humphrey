import HumphreyModel.Spec.Base64
import HumphreyModel.Proofs.Bits

/-! The specification's bit strings in the terms of `Proofs/Bits.lean`, and its two regrouping functions on whole and
on short groups. -/
namespace Humphrey.Base64
open Spec

@[simp] theorem bitsToNat_eq (l : List Bool) : bitsToNat l = bitsVal l := rfl

theorem bitsOfByte_eq (b : UInt8) : bitsOfByte b = bits 8 b.toNat := rfl

theorem bitsOfSextet_eq (v : Nat) : bitsOfSextet v = bits 6 v := rfl

theorem sixes_append : ∀ {g : List Bool}, g.length = 6 → ∀ r, sixes (g ++ r) = g :: sixes r
  | [_, _, _, _, _, _], _, _ => rfl

theorem sixes_short : ∀ {l : List Bool}, 0 < l.length → l.length < 6 →
    sixes l = [l ++ List.replicate (6 - l.length) false]
  | [_], _, _ | [_, _], _, _ | [_, _, _], _, _ | [_, _, _, _], _, _ | [_, _, _, _, _], _, _ => rfl

theorem eights_append : ∀ {g : List Bool}, g.length = 8 → ∀ r, eights (g ++ r) = g :: eights r
  | [_, _, _, _, _, _, _, _], _, _ => rfl

theorem eights_short : ∀ {l : List Bool}, l.length < 8 → eights l = []
  | [], _ | [_], _ | [_, _], _ | [_, _, _], _ | [_, _, _, _], _ | [_, _, _, _, _], _
  | [_, _, _, _, _, _], _ | [_, _, _, _, _, _, _], _ => rfl

end Humphrey.Base64
