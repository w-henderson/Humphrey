import HumphreyModel.Proofs.RespSim
/-
The HTTP parsers on the flat stream: what the size bounds (C03, `Proofs/TruncBounds.lean`) and the
truncation theorems (C09, `Proofs/TruncCut.lean`) share. The two reads are described by their lengths
and by what they return when the stream has lost its end; `HeadOf` names what the response parser has
seen when it reaches the body.
-/
namespace Humphrey.Http
open Humphrey Humphrey.IO Humphrey.Bytes

/-- `parseRespHeaders_succ` (`Proofs/RespSim.lean`) on the flat stream, with the reads written out. -/
theorem parseRespHeaders_flat (fuel : Nat) (s : Bytes) (acc : Headers) :
    parseRespHeaders flatSource (fuel + 1) s acc =
      if (flatReadUntil LF s).1 = crlf then .ok (acc, (flatReadUntil LF s).2)
      else match parseRespHeaderLine (flatReadUntil LF s).1 with
        | .ok h => parseRespHeaders flatSource fuel (flatReadUntil LF s).2 (acc ++ [h])
        | .err e => .err e
        | .panic => .panic := rfl

theorem flatReadUntil_length (d : UInt8) (s : Bytes) :
    (flatReadUntil d s).1.length + (flatReadUntil d s).2.length = s.length := by
  rw [← List.length_append, flatReadUntil_append_eq]

theorem flatReadExact_length {n : Nat} {s data rest : Bytes}
    (h : flatReadExact n s = some (data, rest)) : data.length = n ∧ n + rest.length = s.length := by
  obtain ⟨rfl, rfl⟩ := flatReadExact_some h
  exact ⟨rfl, (List.length_append ..).symm⟩

/-! A cut is measured from the END of the stream (`s.take (s.length - k)` has lost the last `k`
bytes): every later state of a parser is a suffix of the stream, so the same `k` describes the cut
at every stage. -/

theorem take_append_sub (a b : Bytes) {k : Nat} (h : k ≤ b.length) :
    (a ++ b).take ((a ++ b).length - k) = a ++ b.take (b.length - k) := by
  rw [List.length_append, Nat.add_sub_assoc h, List.take_length_add_append]

/-- A cut behind the line leaves the line as it was. -/
theorem flatReadUntil_cut {d : UInt8} {s : Bytes} {k : Nat} (h : k ≤ (flatReadUntil d s).2.length) :
    flatReadUntil d (s.take (s.length - k)) =
      ((flatReadUntil d s).1, (flatReadUntil d s).2.take ((flatReadUntil d s).2.length - k)) := by
  rcases flatReadUntil_cases d s with ⟨hs, e⟩ | ⟨l, t, hl, rfl, e⟩ <;> rw [e] at h ⊢
  · rw [Nat.le_zero.mp h, Nat.sub_zero, List.take_length, e, List.take_nil]
  · have e' : l ++ d :: t = (l ++ [d]) ++ t := (List.append_assoc l [d] t).symm
    rw [e', take_append_sub _ _ h, List.append_assoc]
    exact flatReadUntil_append_delim _ hl

/-- A cut inside the line takes the delimiter away. -/
theorem delim_not_mem_cut {d : UInt8} {s : Bytes} {k : Nat} (h : (flatReadUntil d s).2.length < k) :
    d ∉ s.take (s.length - k) := by
  rcases flatReadUntil_cases d s with ⟨hs, -⟩ | ⟨l, t, hl, rfl, e⟩
  · exact fun hm => hs (List.mem_of_mem_take hm)
  · rw [e] at h
    have h : t.length < k := h
    have hk : (l ++ d :: t).length - k ≤ l.length := by
      rw [List.length_append, List.length_cons]; omega
    rw [List.take_append_of_le_length hk]
    exact fun hm => hl (List.mem_of_mem_take hm)

theorem flatReadExact_cut {n : Nat} {s data rest : Bytes} (h : flatReadExact n s = some (data, rest))
    {k : Nat} (hks : k ≤ s.length) :
    flatReadExact n (s.take (s.length - k)) =
      if k ≤ rest.length then some (data, rest.take (rest.length - k)) else none := by
  unfold flatReadExact at h ⊢
  split at h
  · rename_i hn
    cases h
    rw [List.length_take, Nat.min_eq_left (Nat.sub_le _ _), List.length_drop]
    by_cases hk : k ≤ s.length - n
    · have hn' : n ≤ s.length - k := by omega
      rw [if_pos hn', if_pos hk, List.take_take, Nat.min_eq_left hn', List.drop_take, Nat.sub_right_comm]
    · rw [if_neg (by omega), if_neg hk]
  · cases h

/-- `s` begins with a complete head — a status line giving version `v` and code `c`, the field
lines of `hs`, the blank line — and `s2` is what follows it. -/
def HeadOf (s v : Bytes) (c : Nat) (hs : Headers) (s2 : Bytes) : Prop :=
  parseStatusLine (flatReadUntil LF s).1 = some (v, c) ∧
  parseRespHeaders flatSource ((flatReadUntil LF s).2.length + 1) (flatReadUntil LF s).2 [] = .ok (hs, s2)

theorem HeadOf.parse {s v : Bytes} {c : Nat} {hs : Headers} {s2 : Bytes} (h : HeadOf s v c hs s2) :
    parseResponse flatSource s =
      match parseBody flatSource c hs s2 with
      | .err e => .err e
      | .panic => .panic
      | .ok ((hs', body), s3) => .ok (⟨v, c, hs', body⟩, s3) := by
  have h2 := h.2
  simp only [flatSource] at h2
  simp only [parseResponse, flatSource, h.1, h2]
  generalize parseBody _ c hs s2 = o
  rcases o with ⟨⟨⟨_, _⟩, _⟩⟩ | _ | _ <;> rfl

theorem headOf_of_parse {s : Bytes} {r : Response} {rest : Bytes}
    (h : parseResponse flatSource s = .ok (r, rest)) :
    ∃ hs s2, HeadOf s r.version r.status hs s2 ∧
      parseBody flatSource r.status hs s2 = .ok ((r.headers, r.body), rest) := by
  simp only [parseResponse, flatSource] at h
  split at h
  · cases h
  · rename_i v c hsl
    split at h
    · cases h
    · cases h
    · rename_i hs s2 hh
      split at h
      · cases h
      · cases h
      · rename_i hs' body s3 hb
        cases h
        exact ⟨hs, s2, ⟨hsl, hh⟩, hb⟩

end Humphrey.Http
