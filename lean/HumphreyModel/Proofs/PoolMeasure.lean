import HumphreyModel.Proofs.PoolBasic

/-!
Termination measure for the pool's transition system (C08): one weighted sum over the lifecycle, the queued messages, the
position of each worker in its loop, the pending panic markers, the recovery thread and the caller in `drop`. Every step
other than `submit` makes it strictly smaller: where a step raises one summand, the weights make another fall by more.

The steps that raise a summand, and what pays for them:

| step         | rises                                      | falls                             |
|--------------|--------------------------------------------|-----------------------------------|
| `start`      | `c.n` idle workers, `5 * c.n`              | `lifeRank`: `5 * c.n + 13` to 12  |
| `stop`       | one more message (`Shutdown`), 11          | `lifeRank`: 12 to 0               |
| `recvMsg`    | worker `inRecv` 3 to `got (some _)` 13     | one message fewer, 11             |
| `markerSend` | one more id in `recChan`, 3                | worker `unwinding` 10 to `dead` 6 |
| `recRecv`    | recovery thread `waiting` 0 to `joining` 2 | one id fewer in `recChan`, 3      |

Every other step only moves a worker, the recovery thread or the caller down its own scale (`recRespawn` two of them).
-/
namespace Humphrey.Pool

def Phase.rank : Phase → Nat
  | .exited => 0
  | .ready none => 1
  | .got none => 2
  | .inRecv => 3
  | .waitingLock => 4
  | .idle => 5
  | .dead => 6
  | .unwinding => 10
  | .running _ => 11
  | .ready (some _) => 12
  | .got (some _) => 13

def Rec.rank : Rec → Nat
  | .joining _ => 2
  | .respawning _ => 1
  | _ => 0

def Caller.rank : Caller → Nat
  | .idle => 4
  | .dropRec => 3
  | .dropThreads => 2
  | .dropTx => 1
  | .done => 0

def lifeRank (c : Cfg) : Life → Nat
  | .created => 5 * c.n + 13
  | .started => 12
  | _ => 0

/-- One queued message weighs 11: more than the 10 a worker's rank rises by when it takes the message. -/
def measure (c : Cfg) (s : State) : Nat :=
  11 * s.queue.length + sumBy Phase.rank s.workers + 3 * s.recChan.length + s.recov.rank + s.caller.rank
    + lifeRank c s.life

/-- Worker `w` moves from phase `p` to `q`: the measure goes down if `w`'s rank together with the weight of the queue,
of the recovery channel and of the recovery thread does (lifecycle and caller are not the worker's to change). -/
theorem measure_move {c : Cfg} {s s' : State} {w : Nat} {p q : Phase} (hw : s.workers[w]? = some p)
    (hws : s'.workers = s.workers.set w q) (hlife : s'.life = s.life) (hcaller : s'.caller = s.caller)
    (h : 11 * s'.queue.length + q.rank + 3 * s'.recChan.length + s'.recov.rank <
      11 * s.queue.length + p.rank + 3 * s.recChan.length + s.recov.rank) : measure c s' < measure c s := by
  have := sumBy_set (g := Phase.rank) q hw
  simp only [measure, hws, hlife, hcaller]; omega

theorem measure_silent {c : Cfg} {s s' : State} {w : Nat} {p q : Phase} (hw : s.workers[w]? = some p)
    (hws : s'.workers = s.workers.set w q) (hlife : s'.life = s.life) (hcaller : s'.caller = s.caller)
    (hq : s'.queue = s.queue) (hrc : s'.recChan = s.recChan) (hr : s'.recov = s.recov) (h : q.rank < p.rank) :
    measure c s' < measure c s :=
  measure_move hw hws hlife hcaller (by
    rw [hq, hrc, hr]; exact Nat.add_lt_add_right (Nat.add_lt_add_right (Nat.add_lt_add_left h _) _) _)

theorem measure_caller {c : Cfg} {s : State} {q : Caller} (h : q.rank < s.caller.rank) :
    measure c { s with caller := q } < measure c s :=
  Nat.add_lt_add_right (Nat.add_lt_add_left h _) _

theorem Step.measure_lt {c : Cfg} {s s' : State} {l : Label} (st : Step c s l s') (hl : l.isSubmit = false) :
    measure c s' < measure c s := by
  cases st with
  | submit => cases hl
  | start h1 h2 => simp only [measure, h1, lifeRank, sumBy_replicate, Phase.rank, Rec.rank]; grind
  | stop h1 h2 => simp only [measure, h1, lifeRank, List.length_append, List.length_singleton]; grind
  | reqLock hw | lock hw | recvErr hw | run hw | exitErr hw | exitShutdown hw | finish hw | panic hw =>
    exact measure_silent hw rfl rfl rfl rfl rfl rfl (Nat.le_of_ble_eq_true rfl)
  | @unlock w r hw => exact measure_silent hw rfl rfl rfl rfl rfl rfl (by cases r <;> exact Nat.le_of_ble_eq_true rfl)
  | recvMsg hw hq => exact measure_move hw rfl rfl rfl (by simp only [setW, Phase.rank, hq, List.length_cons]; grind)
  | markerSend hw =>
    exact measure_move hw rfl rfl rfl (by simp only [setW, Phase.rank, List.length_append, List.length_singleton]; grind)
  | recRespawn h1 hw => exact measure_move hw rfl rfl rfl (by simp only [setW, Phase.rank, h1, Rec.rank]; grind)
  | recRecv h1 h2 =>
    have := List.length_erase_of_mem h2
    have := List.length_pos_of_mem h2
    simp only [measure, h1, Rec.rank]; omega
  | recJoin h1 => simp [measure, h1, Rec.rank]
  | dropBegin h1 | dropDetach h1 => exact measure_caller (by rw [h1]; decide)
  | dropDetachRecovery h1 => exact measure_caller (by rw [h1]; split <;> decide)
  | dropSender h1 =>
    -- the caller goes from 1 to 0, and `lifeRank` to 0 from whatever it was
    rw [measure, measure, h1]
    exact Nat.add_lt_add_of_lt_of_le (Nat.add_lt_add_left Nat.one_pos _) (Nat.zero_le _)

theorem measure_step {c : Cfg} {s s' : State} {l : Label} (st : Step c s l s') :
    (l.isSubmit = false → measure c s' < measure c s) ∧ (l.isSubmit = true → measure c s' = measure c s + 11) :=
  ⟨st.measure_lt, fun hl => by
    cases st with
    | submit => simp only [measure, List.length_append, List.length_singleton]; omega
    | _ => cases hl⟩

def submits (ls : List Label) : Nat := (ls.filter Label.isSubmit).length
def otherSteps (ls : List Label) : Nat := (ls.filter (fun l => !l.isSubmit)).length

theorem run_measure {c : Cfg} : ∀ (ls : List Label) (s s' : State), run c s ls = some s' →
    otherSteps ls + measure c s' ≤ measure c s + 11 * submits ls
  | [], s, s', h => by cases h; exact Nat.le_of_eq (by simp [otherSteps, submits])
  | l :: ls, s, s', h => by
    obtain ⟨s1, hl, h⟩ := runWith_cons.mp h
    have ih := run_measure ls s1 s' h
    have m := measure_step (Step.of_step hl)
    cases hs : l.isSubmit
    · have := m.1 hs; simp [otherSteps, submits, hs] at ih ⊢; omega
    · have := m.2 hs; simp [otherSteps, submits, hs] at ih ⊢; omega

end Humphrey.Pool
