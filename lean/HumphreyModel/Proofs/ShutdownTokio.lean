import HumphreyModel.Model.Shutdown

/-!
C20, tokio loop (`Model/Shutdown.lean`, namespace `Tokio`): invariant, measure, progress.
-/
namespace Humphrey.Shutdown.Tokio
open Humphrey Humphrey.Shutdown

/-- `step` spelled out: one constructor per way a label can fire. -/
inductive Step (h : Entry → Bool) (s : State) : Label → State → Prop
  | arrive {e} : s.listenerOpen = true → e ≠ .wake → Step h s (.arrive e) { s with backlog := s.backlog ++ [e] }
  | cancel : s.cancelled = false → Step h s .cancel { s with cancelled := true }
  | takeCancelled : s.pc = .select → s.cancelled = true → Step h s .takeCancelled { s with pc := .dropListener }
  | takeErr {e b} : s.pc = .select → s.backlog = e :: b → e = .err →
      Step h s .takeAccept { s with backlog := b, accepted := s.accepted ++ [e], notServed := s.notServed ++ [e] }
  | takeConn {e b} : s.pc = .select → s.backlog = e :: b → e ≠ .err →
      Step h s .takeAccept { s with pc := .condition e, backlog := b, accepted := s.accepted ++ [e] }
  | letIn {e} : s.pc = .condition e → h e = false → Step h s (.cond true) { s with pc := .spawn e }
  | deny {e} : s.pc = .condition e → h e = false →
      Step h s (.cond false) { s with pc := .select, notServed := s.notServed ++ [e] }
  | spawn {e} : s.pc = .spawn e → Step h s .spawn { s with pc := .select, spawned := s.spawned ++ [e] }
  | dropListener : s.pc = .dropListener →
      Step h s .dropListener { s with pc := .returned, listenerOpen := false, lostBacklog := s.backlog, backlog := [] }

theorem Step.of_step {h : Entry → Bool} {s s' : State} {l : Label} (hs : step h s l = some s') : Step h s l s' := by
  cases l <;> unfold step at hs
  case arrive e => simp at hs; obtain ⟨⟨h1, h2⟩, rfl⟩ := hs; exact .arrive h1 h2
  case cancel => simp at hs; obtain ⟨h1, rfl⟩ := hs; exact .cancel h1
  case takeCancelled => simp at hs; obtain ⟨⟨h1, h2⟩, rfl⟩ := hs; exact .takeCancelled h1 h2
  case takeAccept =>
    cases hb : s.backlog <;> simp [hb] at hs
    obtain ⟨hp, hs⟩ := hs
    split at hs <;> cases hs
    · exact .takeErr hp hb ‹_›
    · exact .takeConn hp hb ‹_›
  case cond b =>
    cases hp : s.pc <;> simp [hp] at hs
    obtain ⟨hh, hs⟩ := hs
    cases b <;> cases hs
    · exact .deny hp hh
    · exact .letIn hp hh
  case spawn => cases hp : s.pc <;> simp [hp] at hs; subst hs; exact .spawn hp
  case dropListener => simp at hs; obtain ⟨h1, rfl⟩ := hs; exact .dropListener h1

structure Inv (s : State) : Prop where
  closed : s.listenerOpen = false ↔ s.pc = .returned
  left : s.pc = .dropListener ∨ s.pc = .returned → s.cancelled = true

theorem inv_init : Inv init := by constructor <;> simp [init]

theorem inv_step {h : Entry → Bool} {s s' : State} {l : Label} (hi : Inv s) (st : Step h s l s') : Inv s' := by
  obtain ⟨h1, h2⟩ := hi
  cases st
  case arrive | cancel | takeErr => exact ⟨h1, fun hp => by simp [h2 hp]⟩
  case dropListener hp => exact ⟨by simp, fun _ => h2 (.inl hp)⟩
  case takeCancelled hp hc => exact ⟨by simpa [hp] using h1, fun _ => hc⟩
  case takeConn hp _ _ | letIn hp _ | deny hp _ | spawn hp => exact ⟨by simpa [hp] using h1, by simp⟩

theorem run_inv {h : Entry → Bool} : ∀ (ls : List Label) (s s' : State), Inv s → run h s ls = some s' → Inv s'
  | [], s, s', hi, hr => by cases hr; exact hi
  | l :: ls, s, s', hi, hr => by
    simp only [run] at hr
    split at hr
    · rename_i s1 hl; exact run_inv ls s1 s' (inv_step hi (.of_step hl)) hr
    · cases hr

theorem Inv.of_reachable {h : Entry → Bool} {s : State} (hr : Reachable h s) : Inv s := by
  obtain ⟨ls, hls⟩ := hr; exact run_inv ls init s inv_init hls

def Pc.rank : Pc → Nat
  | .returned => 0
  | .dropListener => 1
  | .select => 2
  | .spawn _ => 20
  | .condition _ => 21

def measure (s : State) : Nat := 20 * s.backlog.length + s.pc.rank + (if s.cancelled then 0 else 1)

theorem measure_step {h : Entry → Bool} {s s' : State} {l : Label} (st : Step h s l s') :
    (l.isArrive = false → measure s' < measure s) ∧ (l.isArrive = true → measure s' = measure s + 20) := by
  cases st
  case arrive => exact ⟨nofun, fun _ => by simp +arith only [measure, List.length_append, List.length_singleton]⟩
  case cancel h1 => exact ⟨fun _ => by simp [measure, h1], nofun⟩
  case takeErr h1 h2 _ | takeConn h1 h2 _ =>
    exact ⟨fun _ => by simp +arith only [measure, h1, h2, Pc.rank, List.length_cons], nofun⟩
  case takeCancelled h1 _ | letIn h1 _ | deny h1 _ | spawn h1 | dropListener h1 =>
    exact ⟨fun _ => by simp +arith only [measure, h1, Pc.rank, List.length_nil], nofun⟩

def Terminal (h : Entry → Bool) (s : State) : Prop := ∀ l : Label, l.isArrive = false → step h s l = none

/-- Until `run` has returned the loop can move. HYPOTHESIS `hc`: the connection condition returns. -/
theorem progress {h : Entry → Bool} {s : State} (hc : ∀ e, h e = false) (hr : s.pc ≠ .returned) :
    ∃ l, l.isArrive = false ∧ (step h s l).isSome = true := by
  cases hp : s.pc with
  | returned => exact absurd hp hr
  | select =>
    cases hcan : s.cancelled
    · exact ⟨.cancel, rfl, by simp [step, hcan]⟩
    · exact ⟨.takeCancelled, rfl, by simp [step, hp, hcan]⟩
  | condition e => exact ⟨.cond true, rfl, by simp [step, hp, hc e]⟩
  | spawn e => exact ⟨.spawn, rfl, by simp [step, hp]⟩
  | dropListener => exact ⟨.dropListener, rfl, by simp [step, hp]⟩

theorem terminal_returned {h : Entry → Bool} {s : State} (hc : ∀ e, h e = false) (hT : Terminal h s) :
    s.pc = .returned :=
  Decidable.byContradiction fun hr => by
    obtain ⟨l, hl, hs⟩ := progress hc hr
    rw [hT l hl] at hs; cases hs

end Humphrey.Shutdown.Tokio
