import HumphreyModel.Model.IO
/-
The flat stream's `read_until`/`read_exact` on concatenations, and the chunked reader against the
flat stream: both operations deliver the same bytes and leave the same bytes.
-/
namespace Humphrey.Bytes
open Humphrey

/-- `d` occurs in the string at most as its last byte: the shape of what `read_until(d)` returns
(`flatReadUntil_lineOf`). -/
def LineOf (d : UInt8) (line : Bytes) : Prop := ∃ l, d ∉ l ∧ (line = l ++ [d] ∨ line = l)

theorem LineOf.prefix {d : UInt8} {line x y : Bytes} (hl : LineOf d line) (e : line = x ++ y)
    (hy : y ≠ []) : d ∉ x := by
  obtain ⟨l, hd, h | h⟩ := hl
  · have h1 : (x ++ y).dropLast = x ++ y.dropLast := List.dropLast_append_of_ne_nil hy
    have h2 : (l ++ [d]).dropLast = l := by simp
    rw [← e, h, h2] at h1
    intro hm; exact hd (by rw [h1]; simp [hm])
  · intro hm; exact hd (by rw [← h, e]; simp [hm])

end Humphrey.Bytes

namespace Humphrey.IO
open Humphrey Humphrey.Bytes

theorem takeThrough_of_not_mem {d : UInt8} {s : Bytes} (h : d ∉ s) : takeThrough d s = none := by
  induction s with
  | nil => rfl
  | cons x xs ih =>
    rw [List.mem_cons, not_or] at h
    simp only [takeThrough, if_neg (Ne.symm h.1), ih h.2]

theorem takeThrough_append_delim {d : UInt8} {l : Bytes} (t : Bytes) (h : d ∉ l) :
    takeThrough d (l ++ d :: t) = some (l ++ [d], t) := by
  induction l with
  | nil => simp [takeThrough]
  | cons x xs ih =>
    rw [List.mem_cons, not_or] at h
    simp only [List.cons_append, takeThrough, if_neg (Ne.symm h.1), ih h.2]

theorem takeThrough_cases (d : UInt8) (s : Bytes) :
    (d ∉ s ∧ takeThrough d s = none) ∨
    ∃ l t, d ∉ l ∧ s = l ++ d :: t ∧ takeThrough d s = some (l ++ [d], t) := by
  by_cases h : d ∈ s
  · obtain ⟨l, t, rfl, hl⟩ := List.eq_append_cons_of_mem h
    exact .inr ⟨l, t, hl, rfl, takeThrough_append_delim t hl⟩
  · exact .inl ⟨h, takeThrough_of_not_mem h⟩

theorem flatReadUntil_append_delim {d : UInt8} {l : Bytes} (t : Bytes) (h : d ∉ l) :
    flatReadUntil d (l ++ d :: t) = (l ++ [d], t) := by
  simp only [flatReadUntil, takeThrough_append_delim t h]

theorem flatReadUntil_of_not_mem {d : UInt8} {s : Bytes} (h : d ∉ s) : flatReadUntil d s = (s, []) := by
  simp only [flatReadUntil, takeThrough_of_not_mem h]

theorem flatReadUntil_cases (d : UInt8) (s : Bytes) :
    (d ∉ s ∧ flatReadUntil d s = (s, [])) ∨
    ∃ l t, d ∉ l ∧ s = l ++ d :: t ∧ flatReadUntil d s = (l ++ [d], t) := by
  rcases takeThrough_cases d s with ⟨h, -⟩ | ⟨l, t, hl, rfl, -⟩
  · exact .inl ⟨h, flatReadUntil_of_not_mem h⟩
  · exact .inr ⟨l, t, hl, rfl, flatReadUntil_append_delim t hl⟩

theorem flatReadUntil_append_of_not_mem {d : UInt8} {a : Bytes} (b : Bytes) (h : d ∉ a) :
    flatReadUntil d (a ++ b) = (a ++ (flatReadUntil d b).1, (flatReadUntil d b).2) := by
  rcases flatReadUntil_cases d b with ⟨hb, e⟩ | ⟨l, t, hl, rfl, e⟩ <;> rw [e]
  · rw [flatReadUntil_of_not_mem (by simp [h, hb])]
  · rw [← List.append_assoc, flatReadUntil_append_delim t (by simp [h, hl]), List.append_assoc]

theorem flatReadUntil_lineOf (d : UInt8) (s : Bytes) : LineOf d (flatReadUntil d s).1 := by
  rcases flatReadUntil_cases d s with ⟨h, e⟩ | ⟨l, t, hl, rfl, e⟩ <;> rw [e]
  · exact ⟨s, h, .inr rfl⟩
  · exact ⟨l, hl, .inl rfl⟩

theorem flatReadUntil_append_eq (d : UInt8) (s : Bytes) :
    (flatReadUntil d s).1 ++ (flatReadUntil d s).2 = s := by
  rcases flatReadUntil_cases d s with ⟨-, e⟩ | ⟨l, t, -, rfl, e⟩ <;> rw [e]
  · exact List.append_nil s
  · exact List.append_assoc l [d] t

theorem flatReadExact_some {n : Nat} {s data rest : Bytes} (h : flatReadExact n s = some (data, rest)) :
    s = data ++ rest ∧ data.length = n := by
  unfold flatReadExact at h
  split at h
  · rename_i hn
    cases h
    exact ⟨(List.take_append_drop n s).symm, List.length_take_of_le hn⟩
  · cases h

theorem flatReadExact_append (a b : Bytes) : flatReadExact a.length (a ++ b) = some (a, b) := by
  simp [flatReadExact]

theorem flatReadExact_append_of_lt {n : Nat} {a : Bytes} (b : Bytes) (h : a.length < n) :
    flatReadExact n (a ++ b) = (flatReadExact (n - a.length) b).map fun p => (a ++ p.1, p.2) := by
  have e : (n ≤ (a ++ b).length) = (n - a.length ≤ b.length) := by
    rw [List.length_append]; exact propext ⟨by omega, by omega⟩
  simp only [flatReadExact, e]
  split
  · rw [List.take_append, List.drop_append, List.take_of_length_le (Nat.le_of_lt h),
      List.drop_of_length_le (Nat.le_of_lt h)]; rfl
  · rfl

theorem readUntilAux_flat (d : UInt8) (buf : Bytes) (chunks : List Bytes) :
    ((readUntilAux d buf chunks).1, (readUntilAux d buf chunks).2.rest) =
      flatReadUntil d (buf ++ chunks.flatten) := by
  induction chunks generalizing buf with
  | nil =>
    simp only [readUntilAux, flatReadUntil, List.flatten_nil, List.append_nil]
    cases takeThrough d buf <;> simp [Reader.rest]
  | cons c cs ih =>
    rw [List.flatten_cons]
    rcases takeThrough_cases d buf with ⟨hn, e⟩ | ⟨l, t, hl, rfl, e⟩
    · rw [flatReadUntil_append_of_not_mem _ hn, ← ih c]
      simp only [readUntilAux, e]
    · rw [List.append_assoc, List.cons_append, flatReadUntil_append_delim _ hl]
      simp only [readUntilAux, e, Reader.rest, List.flatten_cons]

theorem readExactAux_flat (n : Nat) (buf : Bytes) (chunks : List Bytes) :
    (readExactAux n buf chunks).map (fun p => (p.1, p.2.rest)) =
      flatReadExact n (buf ++ chunks.flatten) := by
  induction chunks generalizing n buf with
  | nil =>
    simp only [readExactAux, flatReadExact, List.flatten_nil, List.append_nil]
    split <;> simp [Reader.rest]
  | cons c cs ih =>
    rw [List.flatten_cons]
    by_cases h : n ≤ buf.length
    · simp only [readExactAux, flatReadExact, if_pos h, List.length_append,
        if_pos (Nat.le_trans h (Nat.le_add_right _ _)), Option.map_some, Reader.rest,
        List.take_append_of_le_length h, List.drop_append_of_le_length h, List.flatten_cons]
    · rw [flatReadExact_append_of_lt _ (Nat.lt_of_not_le h), ← ih]
      simp only [readExactAux, if_neg h]
      cases readExactAux (n - buf.length) c cs <;> rfl

theorem readerSource_readUntil (d : UInt8) (r : Reader) :
    ((readerSource.readUntil d r).1, (readerSource.readUntil d r).2.rest) =
      flatSource.readUntil d r.rest :=
  readUntilAux_flat d r.buf r.chunks

theorem readerSource_readExact (n : Nat) (r : Reader) :
    (readerSource.readExact n r).map (fun p => (p.1, p.2.rest)) = flatSource.readExact n r.rest :=
  readExactAux_flat n r.buf r.chunks

end Humphrey.IO
