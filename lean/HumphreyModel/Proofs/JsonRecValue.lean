import HumphreyModel.Proofs.JsonRecLex

/-!
The recursive layer of the executable acceptor (`recValue` / `recElems` / `recMembers`) against the
inductive family `J`, completeness: every derivation of `J` is followed by the acceptor, which
returns exactly the depth index of the derivation, leaves the unpaired-surrogate flag untouched, and
needs no more fuel than the length of the text plus two (`J_recCompleteAt`).
-/
namespace Humphrey.JsonSpec
open Humphrey.Json

variable {N : Type} {C : NumCodec N}

theorem rec_value_arr_empty (f : Nat) {r r' : List Char} (lone : Bool) (h : skipWs r = ']' :: r') :
    recValue (f + 1) ('[' :: r) lone = some (1, lone, r') := by
  rw [recValue, h]; rfl

theorem rec_value_arr (f : Nat) {r r' : List Char} {c : Char} (lone : Bool) (h : skipWs r = c :: r')
    (hc : c ≠ ']') :
    recValue (f + 1) ('[' :: r) lone =
      (recElems f (skipWs r) lone 0).map fun (d, l, r) => (d + 1, l, r) := by
  rw [recValue]
  split
  · rename_i h'
    rw [h] at h'
    cases h'
    exact absurd rfl hc
  · rfl

theorem rec_value_obj_empty (f : Nat) {r r' : List Char} (lone : Bool) (h : skipWs r = '}' :: r') :
    recValue (f + 1) ('{' :: r) lone = some (1, lone, r') := by
  rw [recValue, h]; rfl

theorem rec_value_obj (f : Nat) {r r' : List Char} {c : Char} (lone : Bool) (h : skipWs r = c :: r')
    (hc : c ≠ '}') :
    recValue (f + 1) ('{' :: r) lone =
      (recMembers f (skipWs r) lone 0).map fun (d, l, r) => (d + 1, l, r) := by
  rw [recValue]
  split
  · rename_i h'
    rw [h] at h'
    cases h'
    exact absurd rfl hc
  · rfl

theorem rec_value_num (f : Nat) {c : Char} (r : List Char) (lone : Bool) (h1 : c ≠ '"') (h2 : c ≠ '[')
    (h3 : c ≠ '{') (h4 : c ≠ 't') (h5 : c ≠ 'f') (h6 : c ≠ 'n') :
    recValue (f + 1) (c :: r) lone = (recNumber (c :: r)).map fun r => (0, lone, r) := by
  rw [recValue.eq_def]
  simp only
  split
  · rename_i h; cases h
  · rename_i h; cases h; exact absurd rfl h1
  · rename_i h; cases h; exact absurd rfl h2
  · rename_i h; cases h; exact absurd rfl h3
  · rename_i h; cases h; exact absurd rfl h4
  · rename_i h; cases h; exact absurd rfl h5
  · rename_i h; cases h; exact absurd rfl h6
  · rfl

theorem rec_elems_last (f : Nat) {s r1 r2 : List Char} {lone lone1 : Bool} (dmax : Nat) {d : Nat}
    (hv : recValue f s lone = some (d, lone1, r1)) (hs : skipWs r1 = ']' :: r2) :
    recElems (f + 1) s lone dmax = some (max dmax d, lone1, r2) := by
  simp only [recElems, hv, hs]

theorem rec_elems_more (f : Nat) {s r1 r2 : List Char} {lone lone1 : Bool} (dmax : Nat) {d : Nat}
    (hv : recValue f s lone = some (d, lone1, r1)) (hs : skipWs r1 = ',' :: r2) :
    recElems (f + 1) s lone dmax = recElems f (skipWs r2) lone1 (max dmax d) := by
  simp only [recElems, hv, hs]

theorem rec_members_last (f : Nat) {s r1 r2 r3 r4 : List Char} {lone lone1 lone2 : Bool} (dmax : Nat) {d : Nat}
    (hk : recString s lone = some (lone1, r1)) (hc : skipWs r1 = ':' :: r2)
    (hv : recValue f (skipWs r2) lone1 = some (d, lone2, r3)) (hs : skipWs r3 = '}' :: r4) :
    recMembers (f + 1) s lone dmax = some (max dmax d, lone2, r4) := by
  simp only [recMembers, hk, hc, hv, hs]

theorem rec_members_more (f : Nat) {s r1 r2 r3 r4 : List Char} {lone lone1 lone2 : Bool} (dmax : Nat) {d : Nat}
    (hk : recString s lone = some (lone1, r1)) (hc : skipWs r1 = ':' :: r2)
    (hv : recValue f (skipWs r2) lone1 = some (d, lone2, r3)) (hs : skipWs r3 = ',' :: r4) :
    recMembers (f + 1) s lone dmax = recMembers f (skipWs r4) lone2 (max dmax d) := by
  simp only [recMembers, hk, hc, hv, hs]

theorem rec_elems_head {t : List Char} {v : Value N} {d : Nat} (h : J C .elems t v d) :
    ∃ w c r, Ws w ∧ t = w ++ c :: r ∧ isWhitespace c = false ∧ c ≠ ']' := by
  cases h with
  | @elemsOne w1 t w2 v d hw1 hv hw2 =>
    obtain ⟨c, r, rfl, hws, h1, _⟩ := J_value_head hv
    exact ⟨w1, c, r ++ w2, hw1, by simp, hws, h1⟩
  | @elemsCons w1 t w2 t' v vs d d' hw1 hv hw2 _ =>
    obtain ⟨c, r, rfl, hws, h1, _⟩ := J_value_head hv
    exact ⟨w1, c, r ++ (w2 ++ ',' :: t'), hw1, by simp, hws, h1⟩

theorem rec_members_head {t : List Char} {v : Value N} {d : Nat} (h : J C .members t v d) :
    ∃ w r, Ws w ∧ t = w ++ '"' :: r := by
  cases h with
  | membersOne hw1 _ _ _ _ _ => exact ⟨_, _, hw1, rfl⟩
  | membersCons hw1 _ _ _ _ _ _ => exact ⟨_, _, hw1, rfl⟩

theorem rec_elems_ws_prefix {w t : List Char} {v : Value N} {d : Nat} (hw : Ws w) (h : J C .elems t v d) :
    J C .elems (w ++ t) v d := by
  cases h with
  | elemsOne hw1 hv hw2 =>
    have := J.elemsOne (ws_append hw hw1) hv hw2
    simpa [List.append_assoc] using this
  | elemsCons hw1 hv hw2 hr =>
    have := J.elemsCons (ws_append hw hw1) hv hw2 hr
    simpa [List.append_assoc] using this

theorem rec_members_ws_prefix {w t : List Char} {v : Value N} {d : Nat} (hw : Ws w) (h : J C .members t v d) :
    J C .members (w ++ t) v d := by
  cases h with
  | membersOne hw1 hk hw2 hw3 hv hw4 =>
    have := J.membersOne (ws_append hw hw1) hk hw2 hw3 hv hw4
    simpa [List.append_assoc] using this
  | membersCons hw1 hk hw2 hw3 hv hw4 hr =>
    have := J.membersCons (ws_append hw hw1) hk hw2 hw3 hv hw4 hr
    simpa [List.append_assoc] using this

/-- What completeness says for each syntactic category of `J`: the acceptor consumes exactly the
text, returns exactly the depth index, leaves the flag alone; `length + 1` (value) resp.
`length + 2` (lists) units of fuel are enough. -/
def RecCompleteAt : Kind → List Char → Nat → Prop
  | .value, t, d => ∀ f lone rest, Delim rest → t.length ≤ f →
      recValue (f + 1) (t ++ rest) lone = some (d, lone, rest)
  | .elems, t, d => ∀ f lone dmax rest, t.length ≤ f →
      recElems (f + 2) (skipWs (t ++ ']' :: rest)) lone dmax = some (max dmax d, lone, rest)
  | .members, t, d => ∀ f lone dmax rest, t.length ≤ f →
      recMembers (f + 2) (skipWs (t ++ '}' :: rest)) lone dmax = some (max dmax d, lone, rest)

theorem J_recCompleteAt {k : Kind} {t : List Char} {v : Value N} {d : Nat}
    (h : J C k t v d) : RecCompleteAt k t d := by
  induction h with
  | null | true | false => exact fun f lone rest _ _ => rfl -- `startsWith` compares the literal name
  | @number l n hl hp =>
    intro f lone rest hr _
    obtain ⟨c, t, rfl, hc⟩ := numberLexeme_head hl
    rw [List.cons_append, rec_value_num f _ lone (char_ne (by omega : c.toNat ≠ 34))
      (char_ne (by omega : c.toNat ≠ 91)) (char_ne (by omega : c.toNat ≠ 123)) (char_ne (by omega : c.toNat ≠ 116))
      (char_ne (by omega : c.toNat ≠ 102)) (char_ne (by omega : c.toNat ≠ 110)), ← List.cons_append,
      rec_number_eq, numScan_append hl (numFollow_of_delim hr)]
    rfl
  | @string tb s hb =>
    intro f lone rest _ _
    simp only [List.cons_append, List.append_assoc, List.nil_append]
    rw [recValue, rec_string_complete hb rest lone]
    rfl
  | @arrayEmpty w hw =>
    intro f lone rest _ _
    simp only [List.cons_append, List.append_assoc, List.nil_append]
    exact rec_value_arr_empty f lone (rec_skipWs_ws_then rest hw (by decide))
  | @array t' vs d' hj ih =>
    intro f lone rest _ hf
    obtain ⟨w, c, r, hw, rfl, hcws, hc⟩ := rec_elems_head hj
    obtain ⟨f, rfl, hf'⟩ := fuel_bracket hf
    have hp := ih f lone 0 rest hf'
    simp only [List.cons_append, List.append_assoc, List.nil_append] at hp ⊢
    rw [rec_value_arr (f + 2) lone (rec_skipWs_ws_then _ hw hcws) hc, hp]
    simp only [Option.map_some, Nat.zero_max]
  | @elemsOne w1 t w2 v d' hw1 hv hw2 ih =>
    intro f lone dmax rest hf
    obtain ⟨c, r, rfl, hcws, _⟩ := J_value_head hv
    have hp := ih f lone (w2 ++ ']' :: rest) (delim_ws_then hw2 (by decide)) (fuel_elemsOne hf)
    simp only [List.cons_append, List.append_assoc] at hp ⊢
    rw [rec_skipWs_ws_then _ hw1 hcws]
    exact rec_elems_last (f + 1) dmax hp (rec_skipWs_ws_then rest hw2 (by decide))
  | @elemsCons w1 t w2 t' v vs d1 d2 hw1 hv hw2 _ ih ih' =>
    intro f lone dmax rest hf
    obtain ⟨c, r, rfl, hcws, _⟩ := J_value_head hv
    obtain ⟨f, rfl, hf₁, hf₂⟩ := fuel_elemsCons hf
    have hp := ih (f + 1) lone (w2 ++ ',' :: (t' ++ ']' :: rest)) (delim_ws_then hw2 (by decide)) hf₁
    have hp' := ih' f lone (max dmax d1) rest hf₂
    simp only [List.cons_append, List.append_assoc] at hp ⊢
    rw [rec_skipWs_ws_then _ hw1 hcws, rec_elems_more (f + 2) dmax hp (rec_skipWs_ws_then _ hw2 (by decide)),
      hp', Nat.max_assoc]
  | @objectEmpty w hw =>
    intro f lone rest _ _
    simp only [List.cons_append, List.append_assoc, List.nil_append]
    exact rec_value_obj_empty f lone (rec_skipWs_ws_then rest hw (by decide))
  | @object t' ms d' hj ih =>
    intro f lone rest _ hf
    obtain ⟨w, r, hw, rfl⟩ := rec_members_head hj
    obtain ⟨f, rfl, hf'⟩ := fuel_bracket hf
    have hp := ih f lone 0 rest hf'
    simp only [List.cons_append, List.append_assoc, List.nil_append] at hp ⊢
    rw [rec_value_obj (f + 2) lone (rec_skipWs_ws_then _ hw (by decide)) (by decide), hp]
    simp only [Option.map_some, Nat.zero_max]
  | @membersOne w1 k w2 w3 t w4 key v d' hw1 hk hw2 hw3 hv hw4 ih =>
    intro f lone dmax rest hf
    obtain ⟨c, r, rfl, hcws, _⟩ := J_value_head hv
    have hp := ih f lone (w4 ++ '}' :: rest) (delim_ws_then hw4 (by decide)) (fuel_membersOne hf)
    simp only [List.cons_append, List.append_assoc] at hp ⊢
    rw [rec_skipWs_ws_then _ hw1 (by decide)]
    exact rec_members_last (f + 1) dmax (rec_string_complete hk _ lone) (rec_skipWs_ws_then _ hw2 (by decide))
      (by rw [rec_skipWs_ws_then _ hw3 hcws]; exact hp) (rec_skipWs_ws_then rest hw4 (by decide))
  | @membersCons w1 k w2 w3 t w4 t' key v ms d1 d2 hw1 hk hw2 hw3 hv hw4 _ ih ih' =>
    intro f lone dmax rest hf
    obtain ⟨c, r, rfl, hcws, _⟩ := J_value_head hv
    obtain ⟨f, rfl, hf₁, hf₂⟩ := fuel_membersCons hf
    have hp := ih (f + 2) lone (w4 ++ ',' :: (t' ++ '}' :: rest)) (delim_ws_then hw4 (by decide)) hf₁
    have hp' := ih' (f + 1) lone (max dmax d1) rest (Nat.le_succ_of_le hf₂)
    simp only [List.cons_append, List.append_assoc] at hp ⊢
    rw [rec_skipWs_ws_then _ hw1 (by decide),
      rec_members_more (f + 3) dmax (rec_string_complete hk _ lone) (rec_skipWs_ws_then _ hw2 (by decide))
        (by rw [rec_skipWs_ws_then _ hw3 hcws]; exact hp) (rec_skipWs_ws_then _ hw4 (by decide)),
      hp', Nat.max_assoc]

end Humphrey.JsonSpec
