import HumphreyModel.Spec.JsonTyped
import HumphreyModel.Proofs.JsonSer

/-!
The `json!` token munchers evaluate a literal of the documented grammar to the value its JSON text
denotes; the token trees the generators write go through them to the object of their members.
-/
namespace Humphrey.JsonTyped
open Humphrey.Json Humphrey.JsonSpec

variable {N : Type}

/-- `json!([ … ])`: the empty accumulator handed to the array muncher -/
theorem expandTok_brack (ts : List (Tok N)) :
    expandTok (.group .brack ts) = (expandArray ts [] true).map .array := by
  rw [expandTok]; cases expandArray ts [] true <;> rfl

/-- `json!({ … })`; the arm for `{}` agrees with the object muncher on no tokens -/
theorem expandTok_brace (ts : List (Tok N)) :
    expandTok (.group .brace ts) = (expandObject ts [] true).map .object := by
  cases ts with
  | nil => simp [expandTok, expandObject]
  | cons t ts => rw [expandTok]; cases expandObject (t :: ts) [] true <;> rfl

/-- one array element followed by a comma is consumed by arm 3, 4, 5 (then the comma arm) or 6 -/
theorem expandArray_step_comma (t : Tok N) (v : Value N) (h : expandTok t = some v)
    (rest : List (Tok N)) (acc : List (Value N)) :
    expandArray (t :: .comma :: rest) acc true = expandArray rest (acc ++ [v]) true := by
  cases t with
  | group k ts => cases k <;> simp [expandArray, h]
  | null | expr w | lit s => cases h; simp [expandArray]
  | comma | colon => cases h

/-- the last array element without a trailing comma: arm 3, 4, 5 or 7, then arm 1/2 -/
theorem expandArray_step_last (t : Tok N) (v : Value N) (h : expandTok t = some v)
    (acc : List (Value N)) :
    expandArray [t] acc true = some (acc ++ [v]) := by
  cases t with
  | group k ts => cases k <;> simp [expandArray, h]
  | null | expr w | lit s => cases h; simp [expandArray]
  | comma | colon => cases h

theorem keyOf_keyTok (f : KeyForm) (k : Key) : keyOf (keyTok f k : Tok N) = some k := by
  cases f <;> rfl

/-- what follows a member separator in the documented grammar: nothing, or a key -/
def MemberStart (rest : List (Tok N)) : Prop :=
  rest = [] ∨ ∃ f k r, rest = keyTok f k :: r

/-- arm 8 (the arms before it need a key token in front of a `:`) -/
theorem expandObject_comma (rest : List (Tok N)) (hr : MemberStart rest) (acc : List (Key × Value N)) :
    expandObject (.comma :: rest) acc true = expandObject rest acc true := by
  rcases hr with rfl | ⟨f, k, r, rfl⟩
  · simp [expandObject]
  · cases f <;> simp [keyTok, expandObject]

/-- one member followed by a comma: arms 3, 4, 5 leave the comma to arm 8 (which needs `MemberStart` to
know that none of the earlier arms takes it), arm 6 consumes it -/
theorem expandObject_step_comma (f : KeyForm) (k : Key) (t : Tok N) (v : Value N)
    (h : expandTok t = some v) (rest : List (Tok N)) (hr : MemberStart rest) (acc : List (Key × Value N)) :
    expandObject (keyTok f k :: .colon :: t :: .comma :: rest) acc true =
      expandObject rest (acc ++ [(k, v)]) true := by
  have hk := keyOf_keyTok (N := N) f k
  cases t with
  | group d ts => cases d <;> simp [expandObject, h, hk, expandObject_comma rest hr]
  | null => cases h; simp [expandObject, hk, expandObject_comma rest hr]
  | expr w | lit s => cases h; simp [expandObject, hk]
  | comma | colon => cases h

theorem expandObject_step_last (f : KeyForm) (k : Key) (t : Tok N) (v : Value N)
    (h : expandTok t = some v) (acc : List (Key × Value N)) :
    expandObject [keyTok f k, .colon, t] acc true = some (acc ++ [(k, v)]) := by
  have hk := keyOf_keyTok (N := N) f k
  cases t with
  | group d ts => cases d <;> simp [expandObject, h, hk]
  | null | expr w | lit s => cases h; simp [expandObject, hk]
  | comma | colon => cases h

theorem memberStart_memberToks (ms : List (KeyForm × Key × Lit N)) (tr : Bool) :
    MemberStart (Lit.memberToks ms tr) := by
  match ms with
  | [] => left; simp [Lit.memberToks]
  | [(f, k, x)] =>
    right
    cases tr
    · exact ⟨f, k, [.colon, x.tok], by simp [Lit.memberToks]⟩
    · exact ⟨f, k, [.colon, x.tok, .comma], by simp [Lit.memberToks]⟩
  | (f, k, x) :: m :: ms =>
    right; exact ⟨f, k, .colon :: x.tok :: .comma :: Lit.memberToks (m :: ms) tr, by simp [Lit.memberToks]⟩

mutual
/-- `json!(lit)` is the value the literal denotes -/
theorem expandTok_lit : (l : Lit N) → expandTok l.tok = some l.value
  | .null => by simp [Lit.tok, Lit.value, expandTok]
  | .str s => by simp [Lit.tok, Lit.value, expandTok]
  | .expr v => by simp [Lit.tok, Lit.value, expandTok]
  | .arr xs tr => by
    rw [Lit.tok, expandTok_brack, expandArray_elems xs tr []]; simp [Lit.value]
  | .obj ms tr => by
    rw [Lit.tok, expandTok_brace, expandObject_members ms tr []]; simp [Lit.value]
theorem expandArray_elems : (xs : List (Lit N)) → (tr : Bool) → (acc : List (Value N)) →
    expandArray (Lit.elemToks xs tr) acc true = some (acc ++ Lit.values xs)
  | [], tr, acc => by simp [Lit.elemToks, Lit.values, expandArray]
  | [x], true, acc => by
    simp only [Lit.elemToks, if_true]
    rw [expandArray_step_comma _ _ (expandTok_lit x)]
    simp [expandArray, Lit.values]
  | [x], false, acc => by
    simp only [Lit.elemToks]
    rw [if_neg (by simp), expandArray_step_last _ _ (expandTok_lit x)]
    simp [Lit.values]
  | x :: y :: xs, tr, acc => by
    simp only [Lit.elemToks]
    rw [expandArray_step_comma _ _ (expandTok_lit x), expandArray_elems (y :: xs) tr]
    simp [Lit.values]
theorem expandObject_members : (ms : List (KeyForm × Key × Lit N)) → (tr : Bool) →
    (acc : List (Key × Value N)) →
    expandObject (Lit.memberToks ms tr) acc true = some (acc ++ Lit.memberValues ms)
  | [], tr, acc => by simp [Lit.memberToks, Lit.memberValues, expandObject]
  | [(f, k, x)], true, acc => by
    simp only [Lit.memberToks, if_true]
    rw [expandObject_step_comma _ _ _ _ (expandTok_lit x) _ (Or.inl rfl)]
    simp [expandObject, Lit.memberValues]
  | [(f, k, x)], false, acc => by
    simp only [Lit.memberToks]
    rw [if_neg (by simp), expandObject_step_last _ _ _ _ (expandTok_lit x)]
    simp [Lit.memberValues]
  | (f, k, x) :: m :: ms, tr, acc => by
    simp only [Lit.memberToks]
    rw [expandObject_step_comma _ _ _ _ (expandTok_lit x) _ (memberStart_memberToks (m :: ms) tr),
      expandObject_members (m :: ms) tr]
    simp [Lit.memberValues]
end

mutual
theorem spell_eq_serialize (C : NumCodec N) : (l : Lit N) → l.spell C = serialize C l.value
  | .null => by simp [Lit.spell, Lit.value, serialize]
  | .str s => by simp [Lit.spell, Lit.value, serialize]
  | .expr v => by simp [Lit.spell, Lit.value]
  | .arr xs tr => by simp [Lit.spell, Lit.value, serialize, spellElems_eq C xs]
  | .obj ms tr => by simp [Lit.spell, Lit.value, serialize, spellMembers_eq C ms]
theorem spellElems_eq (C : NumCodec N) : (xs : List (Lit N)) →
    Lit.spellElems C xs = serializeItems C (Lit.values xs)
  | [] => by simp [Lit.spellElems, Lit.values, serializeItems]
  | [x] => by simp [Lit.spellElems, Lit.values, serializeItems, spell_eq_serialize C x]
  | x :: y :: xs => by
    simp [Lit.spellElems, Lit.values, serializeItems, spell_eq_serialize C x, spellElems_eq C (y :: xs)]
theorem spellMembers_eq (C : NumCodec N) : (ms : List (KeyForm × Key × Lit N)) →
    Lit.spellMembers C ms = serializeMembers C (Lit.memberValues ms)
  | [] => by simp [Lit.spellMembers, Lit.memberValues, serializeMembers]
  | [(f, k, x)] => by
    simp [Lit.spellMembers, Lit.memberValues, serializeMembers, spell_eq_serialize C x]
  | (f, k, x) :: m :: ms => by
    obtain ⟨f', k', x'⟩ := m
    simp [Lit.spellMembers, Lit.memberValues, serializeMembers, spell_eq_serialize C x,
      spellMembers_eq C ((f', k', x') :: ms)]
end

/-! ### what `derive(IntoJson)` / `json_map!` write evaluates to the object of the members -/

theorem expandObject_deriveToks : ∀ (ms acc : List (Key × Value Num)),
    expandObject (deriveToks ms) acc true = some (acc ++ ms)
  | [], acc => by simp [deriveToks, expandObject]
  | (k, v) :: ms, acc => by
    simp only [deriveToks, expandObject, keyOf]
    rw [expandObject_deriveToks ms]
    simp

theorem expandObject_mapToks : ∀ (ms acc : List (Key × Value Num)),
    expandObject (mapToks ms) acc true = some (acc ++ ms)
  | [], acc => by simp [mapToks, expandObject]
  | [(k, v)], acc => by simp [mapToks, expandObject, keyOf]
  | (k, v) :: m :: ms, acc => by
    simp only [mapToks, expandObject, keyOf]
    rw [expandObject_mapToks (m :: ms)]
    simp

end Humphrey.JsonTyped
