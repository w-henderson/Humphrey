import HumphreyModel.Model.Route
/-!
The selection rule of `get_handler` and `call_websocket_handler` (`Model/Route.lean`) written once
with `Option` combinators, `((host.bind sub).bind pick).or dflt`, and what it means for that to be
`some b` or `none`. `Props/C04.lean` and `Props/C04Ws.lean` read their characterisations off it.
-/
namespace Humphrey.Http
open Humphrey Humphrey.Glob

theorem bind_bind_eq_some_iff {H S β : Type} (host : Option H) (sub : H → Option S)
    (pick : S → Option β) (b : β) :
    (host.bind sub).bind pick = some b ↔ ∃ h s, host = some h ∧ sub h = some s ∧ pick s = some b := by
  simp only [Option.bind_eq_some_iff]
  exact ⟨fun ⟨s, ⟨h, hh, hs⟩, hp⟩ => ⟨h, s, hh, hs, hp⟩, fun ⟨h, s, hh, hs, hp⟩ => ⟨s, ⟨h, hh, hs⟩, hp⟩⟩

theorem bind_bind_eq_none_iff {H S β : Type} (host : Option H) (sub : H → Option S)
    (pick : S → Option β) :
    (host.bind sub).bind pick = none ↔ ∀ h s, host = some h → sub h = some s → pick s = none := by
  simp only [Option.bind_eq_none_iff, Option.bind_eq_some_iff]
  exact ⟨fun H h s hh hs => H s ⟨h, hh, hs⟩, fun H s ⟨h, hh, hs⟩ => H h s hh hs⟩

theorem bind_bind_none_cases {H S β : Type} (host : Option H) (sub : H → Option S)
    (pick : S → Option β) :
    (host.bind sub).bind pick = none ↔
      host = none ∨ (∃ h, host = some h ∧ sub h = none) ∨
        ∃ h s, host = some h ∧ sub h = some s ∧ pick s = none := by
  cases host with
  | none => exact ⟨fun _ => .inl rfl, fun _ => rfl⟩
  | some h =>
    rw [Option.bind_some]
    cases hs : sub h with
    | none => exact ⟨fun _ => .inr (.inl ⟨h, rfl, hs⟩), fun _ => rfl⟩
    | some s =>
      rw [Option.bind_some]
      refine ⟨fun hp => .inr (.inr ⟨h, s, rfl, hs, hp⟩), ?_⟩
      rintro (hc | ⟨_, hh, hn⟩ | ⟨_, _, hh, hs', hp⟩)
      · cases hc
      · cases hh; rw [hs] at hn; cases hn
      · cases hh; rw [hs] at hs'; cases hs'; exact hp

/-- The rule shared by `getHandler` and `wsHandler`, over any way `sub` of finding the
sub-application of a host, any choice `pick` inside a sub-application and any default: what was
picked, or the default when nothing was. -/
theorem fallback_some_iff {H S β : Type} (host : Option H) (sub : H → Option S) (pick : S → Option β)
    (dflt : Option β) (b : β) :
    ((host.bind sub).bind pick).or dflt = some b ↔
      (∃ h s, host = some h ∧ sub h = some s ∧ pick s = some b) ∨
      ((host = none ∨ (∃ h, host = some h ∧ sub h = none) ∨
        (∃ h s, host = some h ∧ sub h = some s ∧ pick s = none)) ∧ dflt = some b) := by
  rw [Option.or_eq_some_iff, bind_bind_eq_some_iff, bind_bind_none_cases]

theorem fallback_none_iff {H S β : Type} (host : Option H) (sub : H → Option S) (pick : S → Option β)
    (dflt : Option β) :
    ((host.bind sub).bind pick).or dflt = none ↔
      dflt = none ∧ ∀ h s, host = some h → sub h = some s → pick s = none := by
  rw [Option.or_eq_none_iff, bind_bind_eq_none_iff, and_comm]

theorem getHandler_eq {κ ω : Type} (app : App κ ω) (host : Option (List Char)) (path : List Char) :
    getHandler app host path =
      ((host.bind fun h => app.subapps.find? fun s => wildcardMatch s.host h).bind
        fun s => s.routes.find? fun r => wildcardMatch r.pattern path).or
        (app.default.routes.find? fun r => wildcardMatch r.pattern path) := by
  unfold getHandler
  cases host with
  | none => rfl
  | some h =>
    simp only [Option.bind_some]
    cases app.subapps.find? fun s => wildcardMatch s.host h with
    | none => rfl
    | some s =>
      simp only [Option.bind_some]
      cases s.routes.find? fun r => wildcardMatch r.pattern path <;> rfl

theorem wsHandler_eq {κ ω : Type} (app : App κ ω) (host : Option (List Char)) (path : List Char) :
    wsHandler app host path =
      ((host.bind fun h => app.subapps.find? fun s => wildcardMatch s.host h).bind
        fun s => (s.wsRoutes.find? fun r => wildcardMatch r.1 path).map (·.2)).or
        ((app.default.wsRoutes.find? fun r => wildcardMatch r.1 path).map (·.2)) := by
  unfold wsHandler
  cases host with
  | none => rfl
  | some h =>
    simp only [Option.bind_some]
    cases app.subapps.find? fun s => wildcardMatch s.host h with
    | none => rfl
    | some s =>
      simp only [Option.bind_some]
      cases s.wsRoutes.find? fun r => wildcardMatch r.1 path <;> rfl

end Humphrey.Http
