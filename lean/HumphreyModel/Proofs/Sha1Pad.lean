import HumphreyModel.Model.Sha1
import HumphreyModel.Spec.Sha1

/-!
Helper lemmas for C18 (SHA-1): the padded message of `sha1.rs`, read as a bit string, is the padded
message of RFC 3174 §4.
-/
namespace Humphrey.Sha1
open Humphrey.Rfc3174

/-- The three writes into the zeroed vector (`[0..len]`, `[len]`, `[message_len-8..]`) are in range
and do not overlap. -/
theorem paddedLen_ge (n : Nat) : n + 9 ≤ paddedLen n := by unfold paddedLen; omega

theorem paddedLen_mod (n : Nat) : paddedLen n % 64 = 0 := by unfold paddedLen; omega

theorem be64_length (n : Nat) : (be64 n).length = 8 := rfl

theorem pad_length (m : Bytes) : (pad m).length = paddedLen m.length := by
  have := paddedLen_ge m.length
  simp only [pad, List.length_append, List.length_cons, List.length_nil, List.length_replicate, be64_length]
  omega

theorem byteBits_length (b : UInt8) : (byteBits b).length = 8 := rfl

theorem bitsOfBytes_append (a b : List UInt8) : bitsOfBytes (a ++ b) = bitsOfBytes a ++ bitsOfBytes b := by
  induction a with
  | nil => rfl
  | cons x a ih => simp only [List.cons_append, bitsOfBytes, ih, List.append_assoc]

theorem bitsOfBytes_length (a : List UInt8) : (bitsOfBytes a).length = 8 * a.length := by
  induction a with
  | nil => rfl
  | cons x a ih => simp only [bitsOfBytes, List.length_append, byteBits_length, ih, List.length_cons]; omega

theorem byteBits_80 : byteBits 0x80 = true :: List.replicate 7 false := by decide

theorem byteBits_00 : byteBits 0 = List.replicate 8 false := by decide

theorem bitsOfBytes_zeros (z : Nat) : bitsOfBytes (List.replicate z 0) = List.replicate (8 * z) false := by
  induction z with
  | zero => rfl
  | succ z ih =>
    rw [List.replicate_succ, bitsOfBytes, ih, byteBits_00, List.replicate_append_replicate]
    congr 1; omega

theorem byteBits_ofNat (x : Nat) : byteBits (UInt8.ofNat x) =
    [x.testBit 7, x.testBit 6, x.testBit 5, x.testBit 4, x.testBit 3, x.testBit 2, x.testBit 1, x.testBit 0] := by
  simp only [byteBits, UInt8.toNat_ofNat', Nat.testBit_mod_two_pow]
  simp

theorem range64 : List.range 64 = [0, 1, 2, 3, 4, 5, 6, 7, 8, 9, 10, 11, 12, 13, 14, 15, 16, 17, 18, 19, 20,
    21, 22, 23, 24, 25, 26, 27, 28, 29, 30, 31, 32, 33, 34, 35, 36, 37, 38, 39, 40, 41, 42, 43, 44, 45, 46,
    47, 48, 49, 50, 51, 52, 53, 54, 55, 56, 57, 58, 59, 60, 61, 62, 63] := by decide

theorem bitsOfBytes_be64 (n : Nat) : bitsOfBytes (be64 n) = bitsOfNat 64 n := by
  have h0 : n = n / 2 ^ 0 := by simp
  unfold be64 bitsOfNat
  rw [range64]
  conv => lhs; rw [h0]
  simp only [bitsOfBytes, byteBits_ofNat, Nat.testBit_div_two_pow, List.map, List.cons_append, List.nil_append,
    List.append_nil, Nat.reduceAdd, Nat.reduceSub]

/-- §4 of RFC 3174 on a whole number of bytes: `1` + zeros is `0x80` followed by zero bytes. -/
theorem padZeros_bytes (n : Nat) : padZeros (8 * n) = 7 + 8 * (paddedLen n - 8 - (n + 1)) := by
  unfold padZeros paddedLen; omega

theorem pad_eq_rfc (m : Bytes) : bitsOfBytes (pad m) = Rfc3174.pad (bitsOfBytes m) := by
  unfold pad Rfc3174.pad
  simp only [bitsOfBytes_append, bitsOfBytes, bitsOfBytes_zeros, bitsOfBytes_be64, byteBits_80,
    bitsOfBytes_length, padZeros_bytes, List.append_nil]
  have e : m.length * 8 = 8 * m.length := by omega
  rw [e, ← List.replicate_append_replicate]
  simp only [List.append_assoc, List.cons_append, List.nil_append]

/-- The RFC's padded bit string has 8 bits per byte of the code's `message_len`; with `paddedLen_mod` it is a
whole number of 512-bit blocks, as §4 demands. -/
theorem rfc_padded_length (m : Bytes) : (Rfc3174.pad (bitsOfBytes m)).length = 8 * paddedLen m.length := by
  rw [← pad_eq_rfc, bitsOfBytes_length, pad_length]

/-- The padded message is exactly the chunks the loop of `sha1.rs` visits. -/
theorem pad_length_chunks (m : Bytes) : (pad m).length = 64 * (paddedLen m.length / 64) := by
  have := paddedLen_mod m.length
  rw [pad_length]; omega

end Humphrey.Sha1
