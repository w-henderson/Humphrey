import HumphreyModel.Model.Http
import HumphreyModel.Proofs.IO
import HumphreyModel.Proofs.HttpReqUtf8
/-
The text primitives of `Model/Bytes.lean` on concatenations (what the parser does on rendered text)
and the other way round (what a successful `splitOn` / `splitOnce` / `stripCrlf` / `trimStart` tells
about its argument).
-/
namespace Humphrey.Bytes
open Humphrey

theorem splitOn_ne_nil (sep : UInt8) (s : Bytes) : splitOn sep s ≠ [] := by
  induction s with
  | nil => simp [splitOn]
  | cons b rest ih =>
    simp only [splitOn]
    split
    · simp
    · split <;> simp

theorem splitOn_no_sep {sep : UInt8} {a : Bytes} (h : sep ∉ a) : splitOn sep a = [a] := by
  induction a with
  | nil => simp [splitOn]
  | cons x xs ih =>
    simp only [List.mem_cons, not_or] at h
    have hx : ¬ x = sep := fun e => h.1 e.symm
    simp [splitOn, hx, ih h.2]

theorem splitOn_append_sep {sep : UInt8} {a : Bytes} (b : Bytes) (h : sep ∉ a) :
    splitOn sep (a ++ sep :: b) = a :: splitOn sep b := by
  induction a with
  | nil => simp [splitOn]
  | cons x xs ih =>
    simp only [List.mem_cons, not_or] at h
    have hx : ¬ x = sep := fun e => h.1 e.symm
    simp [splitOn, hx, ih h.2]

theorem splitOnce_no_sep {sep : UInt8} {a : Bytes} (h : sep ∉ a) : splitOnce sep a = (a, none) := by
  induction a with
  | nil => simp [splitOnce]
  | cons x xs ih =>
    simp only [List.mem_cons, not_or] at h
    have hx : ¬ x = sep := fun e => h.1 e.symm
    simp [splitOnce, hx, ih h.2]

theorem splitOnce_append_sep {sep : UInt8} {a : Bytes} (b : Bytes) (h : sep ∉ a) :
    splitOnce sep (a ++ sep :: b) = (a, some b) := by
  induction a with
  | nil => simp [splitOnce]
  | cons x xs ih =>
    simp only [List.mem_cons, not_or] at h
    have hx : ¬ x = sep := fun e => h.1 e.symm
    simp [splitOnce, hx, ih h.2]

theorem stripCrlf_append_crlf (v : Bytes) : stripCrlf (v ++ crlf) = some v := by
  have hl : (v ++ crlf).length = v.length + 2 := by simp [crlf]
  unfold stripCrlf
  rw [hl]
  simp

theorem splitOn_inv {sep : UInt8} {s a : Bytes} {rest : List Bytes} (h : splitOn sep s = a :: rest) :
    sep ∉ a ∧ (rest = [] → s = a) ∧ (rest ≠ [] → ∃ s', s = a ++ sep :: s' ∧ splitOn sep s' = rest) := by
  by_cases hm : sep ∈ s
  · obtain ⟨l, t, rfl, hl⟩ := List.eq_append_cons_of_mem hm
    rw [splitOn_append_sep t hl] at h
    cases h
    exact ⟨hl, fun e => absurd e (splitOn_ne_nil _ _), fun _ => ⟨t, rfl, rfl⟩⟩
  · rw [splitOn_no_sep hm] at h
    cases h
    exact ⟨hm, fun _ => rfl, fun e => absurd rfl e⟩

theorem splitOnce_inv {sep : UInt8} {s a : Bytes} {r : Option Bytes} (h : splitOnce sep s = (a, r)) :
    sep ∉ a ∧ (r = none → s = a) ∧ (∀ b, r = some b → s = a ++ sep :: b) := by
  by_cases hm : sep ∈ s
  · obtain ⟨l, t, rfl, hl⟩ := List.eq_append_cons_of_mem hm
    rw [splitOnce_append_sep t hl] at h
    cases h
    exact ⟨hl, (fun e => nomatch e), fun b e => by cases e; rfl⟩
  · rw [splitOnce_no_sep hm] at h
    cases h
    exact ⟨hm, fun _ => rfl, (fun b e => nomatch e)⟩

theorem stripCrlf_inv {s v : Bytes} (h : stripCrlf s = some v) : s = v ++ crlf := by
  unfold stripCrlf at h
  split at h
  · rename_i hc
    injection h with h
    rw [← h, ← hc.2]
    exact (List.take_append_drop _ _).symm
  · cases h

theorem wsPrefixLen_sp (s : Bytes) : wsPrefixLen (32 :: s) = 1 := rfl

theorem wsPrefixLen_tab (s : Bytes) : wsPrefixLen (9 :: s) = 1 := rfl

theorem trimStart_sp (s : Bytes) : trimStart (32 :: s) = trimStart s := by
  simp only [trimStart, List.length_cons, trimStartAux, wsPrefixLen_sp, List.drop_succ_cons, List.drop_zero]

theorem trimStart_tab (s : Bytes) : trimStart (9 :: s) = trimStart s := by
  simp only [trimStart, List.length_cons, trimStartAux, wsPrefixLen_tab, List.drop_succ_cons, List.drop_zero]

theorem trimStart_ows {ows : Bytes} (v : Bytes) (h : ∀ b ∈ ows, b = 32 ∨ b = 9) :
    trimStart (ows ++ v) = trimStart v := by
  induction ows with
  | nil => rfl
  | cons x xs ih =>
    have ih' := ih (fun b hb => h b (by simp [hb]))
    rcases h x (by simp) with rfl | rfl
    · rw [List.cons_append, trimStart_sp, ih']
    · rw [List.cons_append, trimStart_tab, ih']

theorem wsSeqs_ok : ∀ w ∈ wsSeqs, utf8Valid w = true ∧ 0 < w.length := by decide

theorem wsPrefixLen_pos {s : Bytes} {k : Nat} (h : wsPrefixLen s = k + 1) :
    ∃ w, utf8Valid w = true ∧ s = w ++ s.drop (k + 1) := by
  unfold wsPrefixLen at h
  cases hf : wsSeqs.find? (fun w => w.isPrefixOf s) with
  | none => simp [hf] at h
  | some w =>
    simp only [hf] at h
    have hp := List.find?_some hf
    have hm := List.mem_of_find?_eq_some hf
    rw [List.isPrefixOf_iff_prefix] at hp
    obtain ⟨t, ht⟩ := hp
    refine ⟨w, (wsSeqs_ok w hm).1, ?_⟩
    rw [← ht, ← h]; simp

theorem wsPrefixLen_nil : wsPrefixLen [] = 0 := by decide

theorem trimStartAux_spec : ∀ (fuel : Nat) (s : Bytes), s.length ≤ fuel →
    wsPrefixLen (trimStartAux fuel s) = 0 ∧ (∃ k, trimStartAux fuel s = s.drop k) ∧
    (utf8Valid s = true → utf8Valid (trimStartAux fuel s) = true)
  | 0, s, h => by
    have : s = [] := List.eq_nil_of_length_eq_zero (by omega)
    subst this
    exact ⟨wsPrefixLen_nil, ⟨0, rfl⟩, fun h => h⟩
  | fuel + 1, s, h => by
    simp only [trimStartAux]
    cases hk : wsPrefixLen s with
    | zero => exact ⟨hk, ⟨0, rfl⟩, fun h => h⟩
    | succ k =>
      simp only []
      obtain ⟨w, hw, hs⟩ := wsPrefixLen_pos hk
      have hlen : (s.drop (k + 1)).length ≤ fuel := by simp; omega
      obtain ⟨h1, ⟨j, h2⟩, h3⟩ := trimStartAux_spec fuel (s.drop (k + 1)) hlen
      refine ⟨h1, ⟨k + 1 + j, by rw [h2, List.drop_drop]⟩, fun hv => h3 ?_⟩
      rw [hs, utf8Valid_append _ hw] at hv
      exact hv

theorem trimStart_of_wsPrefixLen_zero {t : Bytes} (h : wsPrefixLen t = 0) : trimStart t = t := by
  unfold trimStart
  cases t.length with
  | zero => rfl
  | succ n => simp [trimStartAux, h]

theorem wsPrefixLen_trimStart (s : Bytes) : wsPrefixLen (trimStart s) = 0 :=
  (trimStartAux_spec s.length s (Nat.le_refl _)).1

theorem trimStart_idem (s : Bytes) : trimStart (trimStart s) = trimStart s :=
  trimStart_of_wsPrefixLen_zero (wsPrefixLen_trimStart s)

theorem trimStart_suffix (s : Bytes) : ∃ k, trimStart s = s.drop k :=
  (trimStartAux_spec s.length s (Nat.le_refl _)).2.1

theorem utf8Valid_trimStart {s : Bytes} (h : utf8Valid s = true) : utf8Valid (trimStart s) = true :=
  (trimStartAux_spec s.length s (Nat.le_refl _)).2.2 h

theorem not_mem_trimStart {s : Bytes} {c : UInt8} (h : c ∉ s) : c ∉ trimStart s := by
  obtain ⟨k, e⟩ := trimStart_suffix s
  rw [e]; exact fun hm => h (List.mem_of_mem_drop hm)

theorem digit_toNat : ∀ k, k < 10 → (48 + k.toUInt8).toNat - 48 = k := by decide

theorem digit_isDigit : ∀ k, k < 10 → isDigit (48 + k.toUInt8) = true := by decide

/-- The digits written in front of `acc`: at least one, all decimal, and read back they continue
the number `n` in front of what `acc` spells. -/
theorem natToBytesAux_digits (fuel n : Nat) (acc : Bytes) (h : n < fuel) (ha : acc.all isDigit = true) :
    natToBytesAux fuel n acc ≠ [] ∧ (natToBytesAux fuel n acc).all isDigit = true ∧
    digitsValue (natToBytesAux fuel n acc) 0 = digitsValue acc n := by
  induction fuel generalizing n acc with
  | zero => omega
  | succ fuel ih =>
    have hk : n % 10 < 10 := Nat.mod_lt _ (by decide)
    have ha' : ((48 + (n % 10).toUInt8) :: acc).all isDigit = true := by
      simp only [List.all_cons, digit_isDigit _ hk, ha, Bool.and_self]
    have hv : digitsValue ((48 + (n % 10).toUInt8) :: acc) (n / 10) = digitsValue acc n := by
      simp only [digitsValue, digit_toNat _ hk]
      congr 1; omega
    simp only [natToBytesAux]
    split
    · rename_i h0
      exact ⟨List.cons_ne_nil _ _, ha', h0 ▸ hv⟩
    · obtain ⟨h1, h2, h3⟩ := ih (n / 10) _ (by omega) ha'
      exact ⟨h1, h2, h3.trans hv⟩

theorem parseUsize_digits {s : Bytes} (hne : s ≠ []) (hd : s.all isDigit = true)
    (hv : digitsValue s 0 < 18446744073709551616) : parseUsize s = some (digitsValue s 0) := by
  cases s with
  | nil => exact absurd rfl hne
  | cons x xs =>
    have hx : isDigit x = true := by simp only [List.all_cons, Bool.and_eq_true] at hd; exact hd.1
    have h43 : x ≠ 43 := by
      intro e; subst e; revert hx; decide
    unfold parseUsize
    split
    · rename_i rest heq
      injection heq with h1 _
      exact absurd h1 h43
    · simp [hd, hv]

/-- `to_string` writes at least one character, decimal digits only, and they spell `n`. -/
theorem natToBytes_digits (n : Nat) :
    natToBytes n ≠ [] ∧ (∀ b ∈ natToBytes n, isDigit b = true) ∧ digitsValue (natToBytes n) 0 = n := by
  obtain ⟨h1, h2, h3⟩ := natToBytesAux_digits (n + 1) n [] (Nat.lt_succ_self n) rfl
  exact ⟨h1, List.all_eq_true.mp h2, h3⟩

/-- `usize::to_string` then `usize::from_str` is the identity (64-bit). -/
theorem parseUsize_natToBytes (n : Nat) (h : n < 18446744073709551616) :
    parseUsize (natToBytes n) = some n := by
  obtain ⟨h1, h2, h3⟩ := natToBytes_digits n
  have := parseUsize_digits h1 (List.all_eq_true.mpr h2) (by rw [h3]; exact h)
  rwa [h3] at this

end Humphrey.Bytes
