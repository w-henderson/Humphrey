import HumphreyModel.Proofs.JsonTypedShape

/-!
`from_json (to_json v) = Ok v`, by induction on the type.
-/
namespace Humphrey.JsonTyped
open Humphrey.Json (Value)

theorem fromJson_opt_of_ne_null (t : Ty) (j : Value Num) (h : j ≠ .null) (x : TVal)
    (hx : fromJson t j = .ok x) : fromJson (.opt t) j = .ok (.some x) := by
  cases j <;> simp_all [fromJson]

theorem representable_mem : ∀ {vs : List TVal}, RepresentableList vs → ∀ v ∈ vs, Representable v
  | [], _, v, hv => by simp at hv
  | w :: ws, h, v, hv => by
    simp only [RepresentableList] at h
    rcases List.mem_cons.mp hv with rfl | hv
    · exact h.1
    · exact representable_mem h.2 v hv

mutual
theorem fromJson_toJson : (ty : Ty) → ∀ (v : TVal), hasTy ty v = true → KeysDistinct ty → NoNestedOpt ty →
    Representable v → fromJson ty (toJson ty v) = .ok v
  | .bool, v, ht, _, _, _ | .str, v, ht, _, _, _ => by
    cases v <;> simp [hasTy] at ht
    simp [toJson, fromJson]
  | .num k, v, ht, _hk, _hn, hr => by
    cases v <;> simp only [hasTy, Bool.and_eq_true, decide_eq_true_eq, Bool.false_eq_true] at ht
    · -- integer
      rename_i i
      obtain ⟨⟨hk, h1⟩, h2⟩ := ht
      have hx : roundF64 i = i := hr
      simp only [toJson, fromJson, Num.ofInt, hx, castTo_int hk, Num.trunc, clamp_of_mem k i h1 h2]
    · obtain ⟨rfl, _⟩ := ht
      simp [toJson, fromJson, castTo, Num.narrow]
    · obtain ⟨rfl, _⟩ := ht
      simp [toJson, fromJson, castTo, Num.bits]
  | .opt t, v, ht, hk, hn, hr => by
    cases v <;> simp only [hasTy, Bool.false_eq_true] at ht
    · simp [toJson, fromJson]
    · rename_i w
      simp only [toJson]
      exact fromJson_opt_of_ne_null t _ (toJson_ne_null t w ht hn.1) w (fromJson_toJson t w ht hk hn.2 hr)
  | .vec t, v, ht, hk, hn, hr => by
    cases v <;> simp only [hasTy, Bool.false_eq_true] at ht
    rename_i vs
    simp only [toJson, fromJson]
    rw [mapExcept_map (fromJson t) (toJson t) vs
      (fun w hw => fromJson_toJson t w (List.all_eq_true.mp ht w hw) hk hn (representable_mem hr w hw))]
  | .named fs, v, ht, hk, hn, hr => by
    cases v <;> simp only [hasTy, Bool.false_eq_true] at ht
    rename_i vs
    have h : fromJsonFields fs (.object (toJsonFields fs vs)) = .ok vs :=
      from_to_fields fs vs [] ht hk.1 (fun _ _ => List.not_mem_nil) hk.2 hn hr
    simp only [toJson, fromJson, h]
  | .tuple ts, v, ht, hk, hn, hr => by
    cases v <;> simp only [hasTy, Bool.false_eq_true] at ht
    rename_i vs
    have h : fromJsonTuple ts (.array (toJsonTuple ts vs)) 0 = .ok vs := from_to_tuple ts vs [] ht hk hn hr
    simp only [toJson, fromJson, toJsonTuple_length ts vs ht, h]
    simp
  | .enum names, v, ht, hk, _hn, _hr => by
    cases v <;> simp only [hasTy, Bool.false_eq_true, decide_eq_true_eq] at ht
    rename_i i
    simp only [toJson, fromJson]
    rw [← List.getElem_eq_getD (h := ht) [], findVariant_getElem hk 0 ht]
    simp
/-- `from_json` looks every key up in the WHOLE object, so the induction carries the members already
written (`pre`) and the fact that no key still to come occurs among them: the lookup then skips `pre`
and finds the member just written. -/
theorem from_to_fields : (fs : List (Key × Ty)) → ∀ (vs : List TVal) (pre : List (Key × Value Num)),
    hasTyFields fs vs = true → (fs.map (·.1)).Nodup → (∀ k ∈ fs.map (·.1), k ∉ pre.map (·.1)) →
    KeysDistinctFields fs → NoNestedOptFields fs → RepresentableList vs →
    fromJsonFields fs (.object (pre ++ toJsonFields fs vs)) = .ok vs
  | [], [], _, _, _, _, _, _, _ => by simp [fromJsonFields]
  | [], _ :: _, _, ht, _, _, _, _, _ | _ :: _, [], _, ht, _, _, _, _, _ => by simp [hasTyFields] at ht
  | (k, t) :: fs, v :: vs, pre, ht, hnd, hpre, hk, hn, hr => by
    simp only [hasTyFields, Bool.and_eq_true] at ht
    obtain ⟨hnk, hnd⟩ := List.nodup_cons.mp hnd
    have hrec := from_to_fields fs vs (pre ++ [(k, toJson t v)]) ht.2 hnd
      (fun k' hk' => by
        simp only [List.map_append, List.map_cons, List.map_nil, List.mem_append, List.mem_singleton, not_or]
        exact ⟨hpre k' (List.mem_cons_of_mem _ hk'), fun e => hnk (e ▸ hk')⟩)
      hk.2 hn.2 hr.2
    rw [List.append_assoc, List.singleton_append] at hrec
    rw [fromJsonFields, getKey, toJsonFields, findKey_append_of_notin k pre _ (hpre k List.mem_cons_self)]
    simp only [findKey, if_true, Option.getD_some]
    rw [fromJson_toJson t v ht.1 hk.1 hn.1 hr.1, hrec]
/-- The same for positions: the elements already written are `pre`, the next index is `pre.length`. -/
theorem from_to_tuple : (ts : List Ty) → ∀ (vs : List TVal) (pre : List (Value Num)),
    hasTyTuple ts vs = true → KeysDistinctList ts → NoNestedOptList ts → RepresentableList vs →
    fromJsonTuple ts (.array (pre ++ toJsonTuple ts vs)) pre.length = .ok vs
  | [], [], _, _, _, _, _ => by simp [fromJsonTuple]
  | [], _ :: _, _, ht, _, _, _ | _ :: _, [], _, ht, _, _, _ => by simp [hasTyTuple] at ht
  | t :: ts, v :: vs, pre, ht, hk, hn, hr => by
    simp only [hasTyTuple, Bool.and_eq_true] at ht
    have hrec := from_to_tuple ts vs (pre ++ [toJson t v]) ht.2 hk.2 hn.2 hr.2
    rw [List.append_assoc, List.singleton_append, List.length_append, List.length_singleton] at hrec
    rw [fromJsonTuple, getIdx, toJsonTuple]
    simp only [List.getElem?_append_right (Nat.le_refl _), Nat.sub_self, List.getElem?_cons_zero,
      Option.getD_some]
    rw [fromJson_toJson t v ht.1 hk.1 hn.1 hr.1, hrec]
end

end Humphrey.JsonTyped
