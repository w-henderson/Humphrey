import HumphreyModel.Proofs.PoolRecover
import HumphreyModel.Proofs.PoolMeasure

/-!
C08: what a terminal state looks like, and that the driver's `enabled` / `terminalB` say what `step` says.
-/
namespace Humphrey.Pool

/-- No thread can take a step (the caller could only submit, and only if the pool is still started). -/
def Terminal (c : Cfg) (s : State) : Prop := ∀ l : Label, l.isSubmit = false → step c s l = none

theorem Terminal.isSubmit_of_step {c : Cfg} {s s' : State} {l : Label} (hT : Terminal c s) (st : Step c s l s') :
    l.isSubmit = true := by
  cases hl : l.isSubmit
  · cases (hT l hl).symm.trans st.to_step
  · rfl

/-- In a terminal state of a dropped pool every worker incarnation has left its loop: in any other phase it, the owner
of the receiver's mutex it waits for, or the recovery machinery has a step. -/
theorem terminal_workers_exited {c : Cfg} {s : State} (hi : Inv c s) (hT : Terminal c s) (hd : s.life = .dropped) :
    ∀ (w : Nat) (p : Phase), s.workers[w]? = some p → p = .exited := by
  -- no label below is a `submit`, so each `stuck` is `false = true`
  have stuck {l : Label} {s' : State} : Step c s l s' → l.isSubmit = true := hT.isSubmit_of_step
  have recvOk : ∀ v : Nat, s.workers[v]? = some Phase.inRecv → False := fun v hv => by
    -- a worker inside `recv` can always move once the sender is gone
    cases hq : s.queue with
    | nil => cases stuck (.recvErr hv hq (hi.caller.sender.mpr hd))
    | cons m q => cases stuck (.recvMsg hv hq)
  have gotOk : ∀ (v : Nat) (r : Option Msg), s.workers[v]? = some (Phase.got r) → False := fun v r hv =>
    nomatch stuck (.unlock hv (hi.struct.lockHeld v _ hv rfl))
  intro w p hw
  cases p with
  | exited => rfl
  | idle => cases stuck (.reqLock hw)
  | waitingLock =>
    cases hl : s.rxLock with
    | none => cases stuck (.lock hw hl)
    | some v =>
      obtain ⟨p', hp', hh⟩ := hi.struct.lockOwner v hl
      cases p' <;> cases hh
      · exact (recvOk v hp').elim
      · exact (gotOk v _ hp').elim
  | inRecv => exact (recvOk w hw).elim
  | got r => exact (gotOk w r hw).elim
  | ready r =>
    rcases r with _ | k | _
    · cases stuck (.exitErr hw)
    · cases stuck (.run hw)
    · cases stuck (.exitShutdown hw)
  | running k =>
    cases hk : c.panics k
    · cases stuck (.finish hw hk)
    · cases stuck (.panic hw hk)
  | unwinding | dead =>
    obtain ⟨l, _, hl, st⟩ := recovery_enabled hi.struct hw rfl
    cases l <;> cases hl <;> cases stuck st

theorem mem_candidates {c : Cfg} {s s' : State} {l : Label} (hi : InvStruct c s) (h : Step c s l s') :
    l ∈ candidates s := by
  -- a label is found by its position, in the fixed part of `candidates` or in `workerLabels w`
  have wl : ∀ {w : Nat} {p : Phase} {l : Label} (i : Nat), s.workers[w]? = some p → (workerLabels w)[i]? = some l →
      l ∈ candidates s := fun i hw hl =>
    List.mem_append_right _ (List.mem_flatMap.mpr ⟨_, List.mem_range.mpr (lt_of_getElem?_some hw), List.mem_of_getElem? hl⟩)
  cases h with
  | start => exact List.mem_of_getElem? (i := 0) rfl
  | submit => exact List.mem_of_getElem? (i := 1) rfl
  | stop => exact List.mem_of_getElem? (i := 2) rfl
  | recJoin => exact List.mem_of_getElem? (i := 3) rfl
  | recRespawn => exact List.mem_of_getElem? (i := 4) rfl
  | dropBegin => exact List.mem_of_getElem? (i := 5) rfl
  | dropDetachRecovery => exact List.mem_of_getElem? (i := 7) rfl
  | dropDetach => exact List.mem_of_getElem? (i := 8) rfl
  | dropSender => exact List.mem_of_getElem? (i := 9) rfl
  | reqLock hw => exact wl 0 hw rfl
  | lock hw => exact wl 1 hw rfl
  | recvMsg hw | recvErr hw => exact wl 2 hw rfl
  | unlock hw => exact wl 3 hw rfl
  | run hw => exact wl 4 hw rfl
  | finish hw => exact wl 5 hw rfl
  | panic hw => exact wl 6 hw rfl
  | markerSend hw => exact wl 7 hw rfl
  | exitErr hw | exitShutdown hw => exact wl 8 hw rfl
  | recRecv h1 h2 => exact wl 9 (hi.dead_of (.inl h2)) rfl

theorem mem_enabled_iff {c : Cfg} {s : State} (hi : InvStruct c s) (l : Label) :
    l ∈ enabled c s ↔ (step c s l).isSome = true := by
  simp only [enabled, List.mem_filter]
  constructor
  · exact fun h => h.2
  · intro h
    obtain ⟨s', hs'⟩ := Option.isSome_iff_exists.mp h
    exact ⟨mem_candidates hi (Step.of_step hs'), h⟩

theorem terminalB_iff {c : Cfg} {s : State} (hi : InvStruct c s) : terminalB c s = true ↔ Terminal c s := by
  rw [terminalB, List.all_eq_true]
  constructor
  · intro h l hl
    cases hs : step c s l with
    | none => rfl
    | some s' => cases hl.symm.trans (h l ((mem_enabled_iff hi l).mpr (by rw [hs]; rfl)))
  · intro hT l hl
    obtain ⟨s', hs⟩ := Option.isSome_iff_exists.mp ((mem_enabled_iff hi l).mp hl)
    exact hT.isSubmit_of_step (.of_step hs)

end Humphrey.Pool
