import HumphreyModel.Proofs.TruncBounds
import HumphreyModel.Model.Proxy
/-
Truncation (C09): `Response::from_stream` (model `parseResponse`, on the flat stream) on a stream `s`
it accepts, cut short. The parser replays on the shortened stream the reads it made on `s`: a read
that ends before the cut returns the same bytes (`flatReadUntil_cut`, `flatReadExact_cut`), the read
that meets the cut returns a line without LF or fails, and either is an error. So nothing is assumed
about how `s` was produced: every self-delimiting message cut anywhere before its end is an error
(`parseResponse_cut`). Cuts are measured from the end of the stream, `s.take (s.length - k)`, because
then one `k` serves all stages of the parse.
-/
namespace Humphrey.Http
open Humphrey Humphrey.Bytes Humphrey.IO

theorem stripCrlf_noLF {p : Bytes} (h : LF ∉ p) : stripCrlf p = none := by
  unfold stripCrlf
  split
  · rename_i hc
    exact absurd (List.mem_of_mem_drop (i := p.length - 2) (by rw [hc.2]; decide)) h
  · rfl

/-- The header loop on input without LF: the one line it gets is not a field line. -/
theorem parseRespHeaders_noLF {p : Bytes} (h : LF ∉ p) (fuel : Nat) (acc : Headers) :
    parseRespHeaders flatSource fuel p acc = .err .response := by
  cases fuel with
  | zero => rfl
  | succ fuel =>
    have hne : p ≠ crlf := fun e => h (e ▸ by decide)
    rw [parseRespHeaders_flat, flatReadUntil_of_not_mem h, if_neg hne, parseRespHeaderLine,
      stripCrlf_noLF h]
    cases utf8Valid p <;> rfl

/-- The whole parser on input without LF: no status line, or no header section. -/
theorem parseResponse_noLF {p : Bytes} (h : LF ∉ p) : parseResponse flatSource p = .err .response := by
  have hh := parseRespHeaders_noLF (p := []) List.not_mem_nil (([] : Bytes).length + 1) []
  simp only [flatSource] at hh
  simp only [parseResponse, flatSource, flatReadUntil_of_not_mem h]
  cases parseStatusLine p with
  | none => rfl
  | some vc => simp only [hh]

/-- A size line without LF is the last thing on the stream: whatever it says, the reads after it fail. -/
theorem parseChunk_noLF {q : Bytes} (h : LF ∉ q) : ∃ e, parseChunk flatSource q = .err e := by
  simp only [parseChunk, flatSource, flatReadUntil_of_not_mem h]
  by_cases hu : utf8Valid q
  · simp only [hu, Bool.not_true, Bool.false_eq_true, if_false]
    cases parseHexUsize (trimEnd q) with
    | none => exact ⟨_, rfl⟩
    | some n =>
      cases n with
      | zero => exact ⟨.stream, rfl⟩
      | succ n => exact ⟨.stream, by simp [flatReadExact]⟩
  · exact ⟨.response, by simp [hu]⟩

/-- `cut_inside`: the cut reaches into what was read (`rest.length < k`), which is an error whatever the
fuel. `cut_behind`: it takes away unread bytes only (`k ≤ rest.length`), and the result is the same. -/
theorem parseRespHeaders_cut_inside {fuel : Nat} {s : Bytes} {acc hs : Headers} {rest : Bytes}
    (h : parseRespHeaders flatSource fuel s acc = .ok (hs, rest))
    {k : Nat} (hk : rest.length < k) (fuel' : Nat) :
    parseRespHeaders flatSource fuel' (s.take (s.length - k)) acc = .err .response := by
  induction fuel generalizing s acc fuel' with
  | zero => cases h
  | succ fuel ih =>
    by_cases hlt : (flatReadUntil LF s).2.length < k
    · exact parseRespHeaders_noLF (delim_not_mem_cut hlt) fuel' acc
    · cases fuel' with
      | zero => rfl
      | succ fuel' =>
        rw [parseRespHeaders_flat] at h ⊢
        simp only [flatReadUntil_cut (Nat.le_of_not_lt hlt)]
        split at h
        · cases h; exact absurd hk hlt
        · rename_i hc
          rw [if_neg hc]
          split at h
          · exact ih h fuel'
          · cases h
          · cases h

/-- Any fuel that covers the bytes of the header section will do: no line is empty. -/
theorem parseRespHeaders_cut_behind {fuel : Nat} {s : Bytes} {acc hs : Headers} {rest : Bytes}
    (h : parseRespHeaders flatSource fuel s acc = .ok (hs, rest))
    {k : Nat} (hk : k ≤ rest.length) {fuel' : Nat} (hf : s.length ≤ fuel' + rest.length) :
    parseRespHeaders flatSource fuel' (s.take (s.length - k)) acc =
      .ok (hs, rest.take (rest.length - k)) := by
  induction fuel generalizing s acc fuel' with
  | zero => cases h
  | succ fuel ih =>
    have hl := flatReadUntil_length LF s
    obtain ⟨f, rfl⟩ : ∃ f, fuel' = f + 1 := by
      obtain ⟨_, _, hb⟩ := parseRespHeaders_size_le h
      exact ⟨fuel' - 1, by omega⟩
    rw [parseRespHeaders_flat] at h ⊢
    split at h
    · rename_i hc
      cases h
      simp only [flatReadUntil_cut hk, if_pos hc]
    · rename_i hc
      split at h
      · rename_i hd hline
        obtain ⟨_, _, hb⟩ := parseRespHeaders_size_le h
        have h3 := parseRespHeaderLine_size_le hline
        simp only [flatReadUntil_cut (show k ≤ (flatReadUntil LF s).2.length by omega), if_neg hc, hline]
        exact ih h (by omega)
      · cases h
      · cases h

theorem HeadOf.cut_inside {s v : Bytes} {c : Nat} {hs : Headers} {s2 : Bytes} (h : HeadOf s v c hs s2)
    {k : Nat} (hk : s2.length < k) :
    parseResponse flatSource (s.take (s.length - k)) = .err .response := by
  by_cases hlt : (flatReadUntil LF s).2.length < k
  · exact parseResponse_noLF (delim_not_mem_cut hlt)
  · have hh := parseRespHeaders_cut_inside h.2 hk
      (((flatReadUntil LF s).2.take ((flatReadUntil LF s).2.length - k)).length + 1)
    simp only [flatSource] at hh
    simp only [parseResponse, flatSource, flatReadUntil_cut (Nat.le_of_not_lt hlt), h.1, hh]

theorem HeadOf.cut_behind {s v : Bytes} {c : Nat} {hs : Headers} {s2 : Bytes} (h : HeadOf s v c hs s2)
    {k : Nat} (hk : k ≤ s2.length) :
    HeadOf (s.take (s.length - k)) v c hs (s2.take (s2.length - k)) := by
  obtain ⟨_, _, hb⟩ := parseRespHeaders_size_le h.2
  unfold HeadOf
  simp only [flatReadUntil_cut (show k ≤ (flatReadUntil LF s).2.length by omega)]
  exact ⟨h.1, parseRespHeaders_cut_behind h.2 hk (by simp only [List.length_take]; omega)⟩

theorem parseChunk_cut {s : Bytes} {o : Option Bytes} {s' : Bytes}
    (h : parseChunk flatSource s = .ok (o, s')) (k : Nat) :
    (k ≤ s'.length →
      parseChunk flatSource (s.take (s.length - k)) = .ok (o, s'.take (s'.length - k))) ∧
    (s'.length < k → ∃ e, parseChunk flatSource (s.take (s.length - k)) = .err e) := by
  have hb := (parseChunk_size_le h).2
  by_cases hlt : (flatReadUntil LF s).2.length < k
  · exact ⟨fun hk => by omega, fun _ => parseChunk_noLF (delim_not_mem_cut hlt)⟩
  · clear hb
    simp only [parseChunk, flatSource, flatReadUntil_cut (Nat.le_of_not_lt hlt)] at h ⊢
    by_cases hu : utf8Valid (flatReadUntil LF s).1
    · simp only [hu, Bool.not_true, Bool.false_eq_true, if_false] at h ⊢
      split at h
      · cases h
      · split at h
        · cases h
        · rename_i hx
          cases h
          simp only [flatReadExact_cut hx (Nat.le_of_not_lt hlt)]
          exact ⟨fun hk => by rw [if_pos hk], fun hk => by rw [if_neg (Nat.not_le_of_lt hk)]; exact ⟨_, rfl⟩⟩
      · split at h
        · cases h
        · rename_i data s2 hx
          split at h
          · cases h
          · rename_i hy
            have e' := (flatReadExact_length hy).2
            cases h
            simp only [flatReadExact_cut hx (Nat.le_of_not_lt hlt)]
            by_cases h1 : k ≤ s2.length
            · simp only [if_pos h1, flatReadExact_cut hy h1]
              exact ⟨fun hk => by rw [if_pos hk],
                fun hk => by rw [if_neg (Nat.not_le_of_lt hk)]; exact ⟨_, rfl⟩⟩
            · rw [if_neg h1]
              exact ⟨fun hk => by omega, fun _ => ⟨_, rfl⟩⟩
    · simp [hu] at h

/-- **The chunk decoder on a chunked body cut before its end is an error** (a cut in a size line, in
chunk data, in the CRLF after the data, in the last-chunk line or in the final CRLF). -/
theorem parseChunks_cut_inside {fuel : Nat} {s acc body s' : Bytes}
    (h : parseChunks flatSource fuel s acc = .ok (body, s'))
    {k : Nat} (hk : s'.length < k) (fuel' : Nat) :
    ∃ e, parseChunks flatSource fuel' (s.take (s.length - k)) acc = .err e := by
  induction fuel generalizing s acc fuel' with
  | zero => cases h
  | succ fuel ih =>
    cases fuel' with
    | zero => exact ⟨_, rfl⟩
    | succ fuel' =>
      rw [parseChunks] at h ⊢
      split at h
      · rename_i s1 hc
        cases h
        obtain ⟨e, he⟩ := (parseChunk_cut hc k).2 hk
        exact ⟨e, by rw [he]⟩
      · rename_i d s1 hc
        by_cases hlt : s1.length < k
        · obtain ⟨e, he⟩ := (parseChunk_cut hc k).2 hlt
          exact ⟨e, by rw [he]⟩
        · rw [(parseChunk_cut hc k).1 (Nat.le_of_not_lt hlt)]
          exact ih h fuel'
      · cases h
      · cases h

/-- A self-delimiting body (chunked, or with Content-Length, or of a status that has none) cut
before its end is an error. `hcd` says that the message read is not close-delimited. -/
theorem parseBody_cut_inside {c : Nat} {hs hs' : Headers} {s body rest : Bytes}
    (h : parseBody flatSource c hs s = .ok ((hs', body), rest)) {v : Bytes}
    (hcd : closeDelimited ⟨v, c, hs', body⟩ = false) {k : Nat} (hk : rest.length < k)
    (hks : k ≤ s.length) :
    ∃ e, parseBody flatSource c hs (s.take (s.length - k)) = .err e := by
  unfold parseBody at h ⊢
  split at h
  · rename_i hte
    rw [if_pos hte]
    split at h
    · cases h
    · cases h
    · rename_i hc
      cases h
      obtain ⟨e, he⟩ := parseChunks_cut_inside hc hk (flatSource.remaining (s.take (s.length - k)) + 1)
      exact ⟨e, by rw [he]⟩
  · rename_i hte
    rw [if_neg hte]
    split at h
    · split at h
      · cases h
      · split at h
        · cases h
        · rename_i hx
          cases h
          simp only [flatSource, flatReadExact_cut hx hks]
          rw [if_neg (Nat.not_le_of_lt hk)]
          exact ⟨_, rfl⟩
    · rename_i hcl
      split at h
      · cases h
        -- no body and nothing read: the remainder is the whole stream
        omega
      · rename_i hnb
        simp only [Outcome.ok.injEq, Prod.mk.injEq] at h
        obtain ⟨⟨rfl, _⟩, _⟩ := h
        simp [closeDelimited, hcl, hnb] at hcd

/-- **A self-delimiting response cut anywhere before its end is an error**, whatever bytes it is
made of: in the head by `HeadOf.cut_inside`, after it by the body reader. -/
theorem parseResponse_cut {s : Bytes} {r : Response} {rest : Bytes}
    (h : parseResponse flatSource s = .ok (r, rest)) (hcd : closeDelimited r = false)
    {n : Nat} (hn : n + rest.length < s.length) :
    ∃ e, parseResponse flatSource (s.take n) = .err e := by
  obtain ⟨hs, s2, hh, hb⟩ := headOf_of_parse h
  rw [← Nat.sub_sub_self (Nat.le_of_lt (Nat.lt_of_le_of_lt (Nat.le_add_right n _) hn))]
  by_cases hlt : s2.length < s.length - n
  · exact ⟨_, hh.cut_inside hlt⟩
  · have := (parseBody_size_le hb).1
    obtain ⟨e, he⟩ := parseBody_cut_inside hb hcd (k := s.length - n) (by omega) (Nat.le_of_not_lt hlt)
    exact ⟨e, by rw [(hh.cut_behind (Nat.le_of_not_lt hlt)).parse, he]⟩

end Humphrey.Http
