import HumphreyModel.Proofs.JsonStr

/-!
For C13: completeness of the parser model for the RFC 8259 relation `J`, by induction on the derivation
(`J_completeAt`). The statement carried through the induction, `CompleteAt`, speaks of the text followed by an
arbitrary rest: a literal token ends only at a delimiter, so a value needs `Delim rest`; the list categories are
stated up to and including their closing bracket, which the loop itself reads, for every loop state in which a
member may come next.
-/
namespace Humphrey.Json
open Humphrey.JsonSpec

theorem isWhitespace_false_iff (c : Char) : isWhitespace c = false ↔
    c.toNat ≠ 32 ∧ c.toNat ≠ 9 ∧ c.toNat ≠ 10 ∧ c.toNat ≠ 13 := by
  have e1 : ' '.toNat = 32 := rfl
  have e2 : '\t'.toNat = 9 := rfl
  have e3 : '\n'.toNat = 10 := rfl
  have e4 : '\r'.toNat = 13 := rfl
  simp only [isWhitespace, char_eq_iff, e1, e2, e3, e4]
  simp [and_assoc]

theorem isLiteral_iff (c : Char) : isLiteral c = true ↔
    c.toNat ≠ 32 ∧ c.toNat ≠ 9 ∧ c.toNat ≠ 10 ∧ c.toNat ≠ 13 ∧ c.toNat ≠ 44 ∧ c.toNat ≠ 125 ∧ c.toNat ≠ 93 := by
  have e5 : ','.toNat = 44 := rfl
  have e6 : '}'.toNat = 125 := rfl
  have e7 : ']'.toNat = 93 := rfl
  simp [isLiteral, isWhitespace_false_iff, char_eq_iff, e5, e6, e7, and_assoc]

theorem isLiteral_digit {c : Char} (h : Digit c) : isLiteral c = true := by
  rw [isLiteral_iff]; have := digit_toNat h; omega

theorem numFollow_of_delim {l : List Char} (h : Delim l) : NumFollow l := by
  intro c r hl
  have hc := h c r hl
  refine ⟨?_, ?_, ?_, ?_⟩
  · cases hd : isDigit c with
    | false => rfl
    | true => rw [isLiteral_digit ((isDigit_iff c).1 hd)] at hc; cases hc
  all_goals intro e; subst e; revert hc; decide

/-- the characters of a number lexeme all belong to the token `parse_literal` cuts out -/
theorem numberLexeme_literal {l : List Char} (h : NumberLexeme l) : ∀ c ∈ l, isLiteral c = true := by
  cases h with
  | @mk m i f e hm hi hf he =>
    intro c hc
    simp only [List.mem_append] at hc
    rcases hc with hc | hc | hc | hc
    · cases hm with
      | none => cases hc
      | minus => cases List.mem_singleton.1 hc; decide
    · cases hi with
      | zero => cases List.mem_singleton.1 hc; decide
      | @nonzero c0 ds h0 hd =>
        rcases List.mem_cons.1 hc with rfl | hc
        · exact isLiteral_digit (digit_of_digit19 h0)
        · exact isLiteral_digit (hd c hc)
    · cases hf with
      | none => cases hc
      | @frac ds hd =>
        rcases List.mem_cons.1 hc with rfl | hc
        · decide
        · exact isLiteral_digit (hd.2 c hc)
    · cases he with
      | none => cases hc
      | @exp c0 sg ds h0 hs hd =>
        rcases List.mem_cons.1 hc with rfl | hc
        · rcases h0 with rfl | rfl <;> decide
        · rcases List.mem_append.1 hc with hc | hc
          · cases hs with
            | none => cases hc
            | minus => cases List.mem_singleton.1 hc; decide
            | plus => cases List.mem_singleton.1 hc; decide
          · exact isLiteral_digit (hd.2 c hc)

theorem numberLexeme_head {l : List Char} (h : NumberLexeme l) :
    ∃ c r, l = c :: r ∧ ((48 ≤ c.toNat ∧ c.toNat ≤ 57) ∨ c.toNat = 45) := by
  cases h with
  | @mk m i f e hm hi hf he =>
    obtain ⟨c, r, hcr, hd⟩ := intPart_head hi
    cases hm with
    | none => exact ⟨c, r ++ (f ++ e), by simp [hcr], Or.inl (digit_toNat hd)⟩
    | minus => exact ⟨'-', i ++ (f ++ e), rfl, Or.inr rfl⟩

/-- `parse_value` on a token `c :: t` that starts none of string, array, object and is followed by
a delimiter: what `parse_literal` makes of the token. -/
theorem parseValue_token {N : Type} (C : NumCodec N) (fuel depth : Nat) {c : Char} {t rest : List Char}
    (hws : isWhitespace c = false) (h1 : c ≠ '"') (h2 : c ≠ '[') (h3 : c ≠ '{')
    (ht : ∀ x ∈ t, isLiteral x = true) (hr : Delim rest) :
    parseValue C (fuel + 1) depth (c :: (t ++ rest)) =
      if c :: t = ['n', 'u', 'l', 'l'] then some (.null, rest)
      else if c :: t = ['t', 'r', 'u', 'e'] then some (.bool true, rest)
      else if c :: t = ['f', 'a', 'l', 's', 'e'] then some (.bool false, rest)
      else if isNumberLexeme (c :: t) then
        match C.parse (c :: t) with
        | some n => some (.number n, rest)
        | none => none
      else none := by
  obtain ⟨e1, e2⟩ := takeWhile_dropWhile_append ht hr
  rw [parseValue, flush_nonws _ hws]
  dsimp only
  rw [if_neg h1, if_neg h2, if_neg h3, parseLiteral, e1, e2]
  rfl

theorem parseValue_number {N : Type} (C : NumCodec N) {l : List Char} {n : N} (hl : NumberLexeme l)
    (hp : C.parse l = some n) (fuel depth : Nat) {rest : List Char} (hr : Delim rest) :
    parseValue C (fuel + 1) depth (l ++ rest) = some (.number n, rest) := by
  obtain ⟨c, t, rfl, hc⟩ := numberLexeme_head hl
  have hlit := numberLexeme_literal hl
  have h4 : c ≠ 'n' := char_ne (by omega : c.toNat ≠ 110)
  have h5 : c ≠ 't' := char_ne (by omega : c.toNat ≠ 116)
  have h6 : c ≠ 'f' := char_ne (by omega : c.toNat ≠ 102)
  rw [List.cons_append, parseValue_token C fuel depth ((isWhitespace_false_iff c).2 (by omega))
    (char_ne (by omega : c.toNat ≠ 34)) (char_ne (by omega : c.toNat ≠ 91)) (char_ne (by omega : c.toNat ≠ 123))
    (fun x hx => hlit x (List.mem_cons_of_mem _ hx)) hr,
    if_neg fun e => h4 (List.cons.inj e).1, if_neg fun e => h5 (List.cons.inj e).1,
    if_neg fun e => h6 (List.cons.inj e).1, if_pos ((isNumberLexeme_iff _).2 hl), hp]

theorem isLiteral_parts {c : Char} (h : isLiteral c = true) :
    isWhitespace c = false ∧ c ≠ ']' ∧ c ≠ '}' ∧ c ≠ ',' := by
  simp only [isLiteral, Bool.and_eq_true, Bool.not_eq_true', bne_iff_ne] at h
  exact ⟨h.1.1.1, h.2, h.1.2, h.1.1.2⟩

theorem J_value_head {N : Type} {C : NumCodec N} {t : List Char} {v : Value N} {d : Nat}
    (h : J C .value t v d) :
    ∃ c r, t = c :: r ∧ isWhitespace c = false ∧ c ≠ ']' ∧ c ≠ '}' ∧ c ≠ ',' := by
  cases h with
  | null => exact ⟨'n', _, rfl, isLiteral_parts (by decide)⟩
  | true => exact ⟨'t', _, rfl, isLiteral_parts (by decide)⟩
  | false => exact ⟨'f', _, rfl, isLiteral_parts (by decide)⟩
  | number hl _ =>
    obtain ⟨c, r, rfl, -⟩ := numberLexeme_head hl
    exact ⟨c, r, rfl, isLiteral_parts (numberLexeme_literal hl c (List.mem_cons_self ..))⟩
  | string _ => exact ⟨'"', _, rfl, isLiteral_parts (by decide)⟩
  | arrayEmpty _ | array _ => exact ⟨'[', _, rfl, isLiteral_parts (by decide)⟩
  | objectEmpty _ | object _ => exact ⟨'{', _, rfl, isLiteral_parts (by decide)⟩

/-! Fuel. One unit per character of the text is enough, for `parseValue` here and for the acceptor of
the spec alike. The next lemmas say how much of it is left for the parts of a text. -/

theorem exists_add_of_le {b k f : Nat} (h : b + k ≤ f) : ∃ f', f = f' + k ∧ b ≤ f' :=
  ⟨f - k, (Nat.sub_add_cancel (Nat.le_trans (Nat.le_add_left k b) h)).symm, Nat.le_sub_of_add_le h⟩

theorem fuel_bracket {c c' : Char} {t : List Char} {f : Nat} (h : (c :: (t ++ [c'])).length ≤ f) :
    ∃ f', f = f' + 2 ∧ t.length ≤ f' :=
  exists_add_of_le (by simpa using h)

theorem fuel_elemsOne {w1 t w2 : List Char} {f : Nat} (h : (w1 ++ (t ++ w2)).length ≤ f) : t.length ≤ f := by
  simp only [List.length_append] at h
  omega

theorem fuel_elemsCons {w1 t w2 t' : List Char} {c : Char} {f : Nat}
    (h : (w1 ++ (t ++ (w2 ++ c :: t'))).length ≤ f) : ∃ f', f = f' + 1 ∧ t.length ≤ f' + 1 ∧ t'.length ≤ f' := by
  simp only [List.length_append, List.length_cons] at h
  have h' : t.length ≤ f ∧ t'.length + 1 ≤ f := by omega
  obtain ⟨f', rfl, h2⟩ := exists_add_of_le h'.2
  exact ⟨f', rfl, h'.1, h2⟩

theorem fuel_membersOne {w1 k w2 w3 t w4 : List Char} {q q' s : Char} {f : Nat}
    (h : (w1 ++ q :: (k ++ q' :: (w2 ++ s :: (w3 ++ (t ++ w4))))).length ≤ f) : t.length ≤ f := by
  simp only [List.length_append, List.length_cons] at h
  omega

theorem fuel_membersCons {w1 k w2 w3 t w4 t' : List Char} {q q' s c : Char} {f : Nat}
    (h : (w1 ++ q :: (k ++ q' :: (w2 ++ s :: (w3 ++ (t ++ (w4 ++ c :: t')))))).length ≤ f) :
    ∃ f', f = f' + 2 ∧ t.length ≤ f' + 2 ∧ t'.length ≤ f' := by
  simp only [List.length_append, List.length_cons] at h
  have h' : t.length ≤ f ∧ t'.length + 2 ≤ f := by omega
  obtain ⟨f', rfl, h2⟩ := exists_add_of_le h'.2
  exact ⟨f', rfl, h'.1, h2⟩

/-- What completeness says for each syntactic category of `J`; `depth` is the parser's `self.depth`
on entry. -/
def CompleteAt {N : Type} (C : NumCodec N) : Kind → List Char → Value N → Nat → Prop
  | .value, t, v, d => ∀ f depth rest, Delim rest → depth + d ≤ maxDepth → t.length ≤ f →
      parseValue C (f + 1) depth (t ++ rest) = some (v, rest)
  | .elems, t, v, d => ∀ f depth first rest, depth + d ≤ maxDepth → t.length ≤ f →
      ∃ vs, v = .array vs ∧ parseArrayLoop C (f + 2) depth first (t ++ ']' :: rest) = some (vs, rest)
  | .members, t, v, d => ∀ f depth empty tc rest, (empty = true ∨ tc = true) → depth + d ≤ maxDepth →
      t.length ≤ f →
      ∃ ms, v = .object ms ∧ parseObjectLoop C (f + 2) depth empty tc (t ++ '}' :: rest) = some (ms, rest)

theorem le_of_max_le {a b c n : Nat} (h : a + max b c ≤ n) : a + b ≤ n ∧ a + c ≤ n :=
  ⟨Nat.le_trans (Nat.add_le_add_left (Nat.le_max_left b c) a) h,
    Nat.le_trans (Nat.add_le_add_left (Nat.le_max_right b c) a) h⟩

theorem parseValue_array {N : Type} (C : NumCodec N) (f : Nat) {depth : Nat} (x : List Char)
    (hd : depth < maxDepth) :
    parseValue C (f + 1) depth ('[' :: x) =
      match parseArrayLoop C f (depth + 1) true x with
      | none => none
      | some (xs, r) => some (.array xs, r) := by
  rw [parseValue, flush_nonws _ (by decide)]
  dsimp only
  rw [if_neg (by decide), if_pos rfl, if_neg (Nat.ne_of_lt hd)]
  rfl

theorem parseValue_object {N : Type} (C : NumCodec N) (f : Nat) {depth : Nat} (x : List Char)
    (hd : depth < maxDepth) :
    parseValue C (f + 1) depth ('{' :: x) =
      match parseObjectLoop C f (depth + 1) true false x with
      | none => none
      | some (ms, r) => some (.object ms, r) := by
  rw [parseValue, flush_nonws _ (by decide)]
  dsimp only
  rw [if_neg (by decide), if_neg (by decide), if_pos rfl, if_neg (Nat.ne_of_lt hd)]
  rfl

/-- One turn of the array loop on `ws value ws c1 …`, up to the decision on `c1`. -/
theorem parseArrayLoop_elem {N : Type} (C : NumCodec N) (f depth : Nat) (first : Bool) {w1 x w2 y : List Char}
    {c c1 : Char} {v : Value N} (hw1 : Ws w1) (hc : isWhitespace c = false) (hne : c ≠ ']')
    (hp : parseValue C f depth (c :: x) = some (v, w2 ++ c1 :: y)) (hw2 : Ws w2)
    (hc1 : isWhitespace c1 = false) :
    parseArrayLoop C (f + 1) depth first (w1 ++ c :: x) =
      if c1 = ',' then
        match parseArrayLoop C f depth false y with
        | none => none
        | some (vs, r) => some (v :: vs, r)
      else if c1 = ']' then some ([v], y)
      else none := by
  rw [parseArrayLoop, flush_ws_cons _ hw1 hc]
  dsimp only
  rw [if_neg hne, hp]
  dsimp only
  rw [flush_ws_cons _ hw2 hc1]
  rfl

/-- One turn of the object loop on `ws "key" ws : ws value`, up to the recursive call on what
follows the value. -/
theorem parseObjectLoop_member {N : Type} (C : NumCodec N) (f depth : Nat) {empty tc : Bool}
    {w1 k key w2 w3 x s3 : List Char} {c : Char} {v : Value N} (hst : empty = true ∨ tc = true)
    (hw1 : Ws w1) (hk : StrBody k key) (hw2 : Ws w2) (hw3 : Ws w3) (hc : isWhitespace c = false)
    (hp : parseValue C f depth (c :: x) = some (v, s3)) :
    parseObjectLoop C (f + 1) depth empty tc (w1 ++ '"' :: (k ++ '"' :: (w2 ++ ':' :: (w3 ++ c :: x)))) =
      match parseObjectLoop C f depth false false s3 with
      | none => none
      | some (ms, r) => some ((key, v) :: ms, r) := by
  have hst' : (!empty && !tc) = false := by rcases hst with h | h <;> simp [h]
  rw [parseObjectLoop, flush_ws_cons _ hw1 (by decide)]
  dsimp only
  rw [if_neg (by decide), if_neg (by decide), hst', if_neg (by decide), if_neg (by decide),
    parseString_of_strBody hk]
  dsimp only
  rw [flush_ws_cons _ hw2 (by decide)]
  dsimp only
  rw [if_neg (by decide), flush_ws_cons _ hw3 hc, hp]
  rfl

theorem J_completeAt {N : Type} (C : NumCodec N) {k : Kind} {t : List Char} {v : Value N} {d : Nat}
    (h : J C k t v d) : CompleteAt C k t v d := by
  induction h with
  | null | true | false =>
    intro f depth rest hr _ _
    exact (parseValue_token C f depth (by decide) (by decide) (by decide) (by decide) (by decide) hr).trans rfl
  | number hl hp => exact fun f depth rest hr _ _ => parseValue_number C hl hp f depth hr
  | @string tb s hb =>
    intro f depth rest hr _ _
    rw [List.cons_append, List.append_assoc, List.singleton_append, parseValue, flush_nonws _ (by decide)]
    dsimp only
    rw [if_pos rfl, parseString_of_strBody hb]
  | @arrayEmpty w hw =>
    intro f depth rest hr hd hf
    obtain ⟨f, rfl, -⟩ := fuel_bracket hf
    rw [List.cons_append, List.append_assoc, List.singleton_append, parseValue_array C _ _ hd, parseArrayLoop,
      flush_ws_cons _ hw (by decide)]
    rfl
  | @array t' vs d' _ ih =>
    intro f depth rest hr hd hf
    obtain ⟨f, rfl, hf'⟩ := fuel_bracket hf
    obtain ⟨vs', hv, hp⟩ := ih f (depth + 1) true rest (by omega) hf'
    cases hv
    rw [List.cons_append, List.append_assoc, List.singleton_append, parseValue_array C _ _ (by omega), hp]
  | @elemsOne w1 t w2 v d' hw1 hv hw2 ih =>
    intro f depth first rest hd hf
    obtain ⟨c, r, rfl, hcws, hc1, -, -⟩ := J_value_head hv
    have hp := ih f depth (w2 ++ ']' :: rest) (delim_ws_then hw2 (by decide)) hd (fuel_elemsOne hf)
    simp only [List.append_assoc, List.cons_append] at hp ⊢
    exact ⟨[v], rfl, (parseArrayLoop_elem C (f + 1) depth first hw1 hcws hc1 hp hw2 (by decide)).trans rfl⟩
  | @elemsCons w1 t w2 t' v vs d1 d2 hw1 hv hw2 _ ih ih' =>
    intro f depth first rest hd hf
    obtain ⟨hd1, hd2⟩ := le_of_max_le hd
    obtain ⟨c, r, rfl, hcws, hc1, -, -⟩ := J_value_head hv
    obtain ⟨f, rfl, hf1, hf2⟩ := fuel_elemsCons hf
    have hp := ih (f + 1) depth (w2 ++ ',' :: (t' ++ ']' :: rest)) (delim_ws_then hw2 (by decide)) hd1 hf1
    obtain ⟨vs', hvs, hp'⟩ := ih' f depth false rest hd2 hf2
    cases hvs
    simp only [List.append_assoc, List.cons_append] at hp ⊢
    refine ⟨v :: vs, rfl, ?_⟩
    rw [parseArrayLoop_elem C (f + 2) depth first hw1 hcws hc1 hp hw2 (by decide), if_pos rfl, hp']
  | @objectEmpty w hw =>
    intro f depth rest hr hd hf
    obtain ⟨f, rfl, -⟩ := fuel_bracket hf
    rw [List.cons_append, List.append_assoc, List.singleton_append, parseValue_object C _ _ hd, parseObjectLoop,
      flush_ws_cons _ hw (by decide)]
    rfl
  | @object t' ms d' _ ih =>
    intro f depth rest hr hd hf
    obtain ⟨f, rfl, hf'⟩ := fuel_bracket hf
    obtain ⟨ms', hv, hp⟩ := ih f (depth + 1) true false rest (.inl rfl) (by omega) hf'
    cases hv
    rw [List.cons_append, List.append_assoc, List.singleton_append, parseValue_object C _ _ (by omega), hp]
  | @membersOne w1 k w2 w3 t w4 key v d' hw1 hk hw2 hw3 hv hw4 ih =>
    intro f depth empty tc rest hst hd hf
    obtain ⟨c, r, rfl, hcws, -, -, -⟩ := J_value_head hv
    have hp := ih f depth (w4 ++ '}' :: rest) (delim_ws_then hw4 (by decide)) hd (fuel_membersOne hf)
    simp only [List.append_assoc, List.cons_append] at hp ⊢
    refine ⟨[(key, v)], rfl, ?_⟩
    rw [parseObjectLoop_member C (f + 1) depth hst hw1 hk hw2 hw3 hcws hp, parseObjectLoop,
      flush_ws_cons _ hw4 (by decide)]
    rfl
  | @membersCons w1 k w2 w3 t w4 t' key v ms d1 d2 hw1 hk hw2 hw3 hv hw4 _ ih ih' =>
    intro f depth empty tc rest hst hd hf
    obtain ⟨hd1, hd2⟩ := le_of_max_le hd
    obtain ⟨c, r, rfl, hcws, -, -, -⟩ := J_value_head hv
    obtain ⟨f, rfl, hf1, hf2⟩ := fuel_membersCons hf
    have hp := ih (f + 2) depth (w4 ++ ',' :: (t' ++ '}' :: rest)) (delim_ws_then hw4 (by decide)) hd1 hf1
    obtain ⟨ms', hms, hp'⟩ := ih' f depth false true rest (.inr rfl) hd2 hf2
    cases hms
    simp only [List.append_assoc, List.cons_append] at hp ⊢
    refine ⟨(key, v) :: ms, rfl, ?_⟩
    rw [parseObjectLoop_member C (f + 3) depth hst hw1 hk hw2 hw3 hcws hp, parseObjectLoop,
      flush_ws_cons _ hw4 (by decide)]
    dsimp only
    rw [if_neg (by decide), if_pos rfl, hp']
    rfl

theorem parseValue_ws_prefix {N : Type} (C : NumCodec N) (fuel depth : Nat) {w : List Char} (x : List Char)
    (hw : Ws w) : parseValue C fuel depth (w ++ x) = parseValue C fuel depth x := by
  cases fuel with
  | zero => simp [parseValue]
  | succ f => simp only [parseValue, flush_ws_append _ hw]

end Humphrey.Json
