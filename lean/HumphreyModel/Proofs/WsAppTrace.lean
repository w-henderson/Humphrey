import HumphreyModel.Proofs.WsApp

/-!
What the normal form of a run (`bodyEffects`) says about one client `a`. Everything rests on where an effect
can come from (`mem_iterEffects`): the poll of the client it is about, its admission, or a send to a client
in the table at the flush. Hence every effect of a run is about a client connected at the start or admitted
during it (`addr_body`); the dispatches for `a` are counted by the polls and admissions of `a`; and when no
address is used twice, the trace splits at the disconnect dispatch and removal of `a`, if there is one, into a
part without either and a part that is not about `a` at all (`gone_split`). Last, the same facts about the trace
of `runLoop` on a consistent run (`addr_trace`, `count_gone`, `gone_once_then_silence`), through `run_trace`.
-/
namespace Humphrey.WsApp
open Humphrey.WsAppSpec

def addrOf : Effect → Option Addr
  | .dispatchConnect b => some b
  | .dispatchMessage b _ => some b
  | .dispatchDisconnect b => some b
  | .sendTo b _ => some b
  | .ping b => some b
  | .drop b => some b
  | _ => none

theorem addr_of_concerns {a : Addr} {e : Effect} (h : concerns a e = true) : addrOf e = some a := by
  cases e <;> simp [concerns, addrOf] at h ⊢ <;> exact h

theorem silent_of_addr_ne {a : Addr} {e : Effect} (h : addrOf e ≠ some a) : concerns a e = false ∧ e ≠ .drop a :=
  ⟨Bool.eq_false_iff.2 fun hc => h (addr_of_concerns hc), fun he => h (he ▸ rfl)⟩

theorem eq_of_mem_guard {α : Type} {c : Bool} {x e : α} (he : e ∈ if c then [x] else []) : e = x := by
  cases c <;> simp at he
  exact he

theorem flatMap_guard {α β : Type} (c : Bool) (f : α → β) (l : List α) :
    (l.flatMap fun x => if c then [f x] else []) = if c then l.map f else [] := by
  cases c
  · simp
  · exact List.map_eq_flatMap.symm

theorem count_map_of_inj {f : Addr → Effect} (hf : ∀ b c, f b = f c → b = c) (a : Addr) (l : List Addr) :
    (l.map f).count (f a) = l.count a := by
  rw [List.count_eq_countP, List.countP_map, List.count_eq_countP]
  exact List.countP_congr fun b _ =>
    ⟨fun e => beq_iff_eq.2 (hf b a (beq_iff_eq.1 e)), fun e => beq_iff_eq.2 (congrArg f (beq_iff_eq.1 e))⟩

theorem mem_onMessage {h : Handlers} {a : Addr} {m : Msg} {e : Effect} (he : e ∈ onMessage h a m) :
    e = .dispatchMessage a m :=
  eq_of_mem_guard he

theorem mem_onConnect {h : Handlers} {a : Addr} {e : Effect} (he : e ∈ onConnect h a) :
    e = .dispatchConnect a :=
  eq_of_mem_guard he

theorem mem_onGone {h : Handlers} {a : Addr} {e : Effect} (he : e ∈ onGone h a) :
    e = .dispatchDisconnect a ∨ e = .drop a :=
  (List.mem_append.1 he).imp eq_of_mem_guard List.mem_singleton.1

theorem mem_pollEnd {h : Handlers} {w : Bool} {p : Poll} {e : Effect} (he : e ∈ pollEnd h w p) :
    closes p = true ∧ (e = .dispatchDisconnect p.addr ∨ e = .drop p.addr) ∨ e = .ping p.addr := by
  unfold pollEnd at he
  split at he
  · exact Or.inl ⟨‹_›, mem_onGone he⟩
  · split at he <;> simp at he
    exact Or.inr he

theorem mem_pollEffects {h : Handlers} {w : Bool} {p : Poll} {e : Effect} (he : e ∈ pollEffects h w p) :
    (∃ m, e = .dispatchMessage p.addr m) ∨ e ∈ pollEnd h w p := by
  rw [pollEffects, List.mem_append, List.mem_flatMap] at he
  exact he.imp (fun ⟨m, _, hm⟩ => ⟨m, mem_onMessage hm⟩) id

theorem addr_pollEffects {h : Handlers} {w : Bool} {p : Poll} {e : Effect} (he : e ∈ pollEffects h w p) :
    addrOf e = some p.addr := by
  rcases mem_pollEffects he with ⟨m, rfl⟩ | he
  · rfl
  · rcases mem_pollEnd he with ⟨_, rfl | rfl⟩ | rfl <;> rfl

theorem mem_recipients {st order : List Addr} {b : Addr} : b ∈ recipients st order ↔ b ∈ st := by
  unfold recipients
  split
  · rename_i h
    simp only [okOrder, Bool.and_eq_true, List.all_eq_true, decide_eq_true_eq] at h
    exact ⟨fun hb => h.1.2 b hb, fun hb => h.2 b hb⟩
  · rfl

theorem nodup_recipients {st order : List Addr} (h : st.Nodup) : (recipients st order).Nodup := by
  unfold recipients
  split
  · rename_i h'
    simp only [okOrder, Bool.and_eq_true, decide_eq_true_eq] at h'
    exact h'.1.1
  · exact h

theorem deliver_broadcast_count {st : List Addr} (hn : st.Nodup) (m : Msg) (order : List Addr) (a : Addr) :
    (deliver st (.broadcast m order)).count (.sendTo a (frameOf m)) = if a ∈ st then 1 else 0 := by
  rw [deliver, count_map_of_inj (fun _ _ e => (Effect.sendTo.inj e).1), (nodup_recipients hn).count]
  simp only [mem_recipients]

theorem mem_flush {st : List Addr} {out : List Out} {e : Effect} (h : e ∈ flush st out) :
    ∃ b bytes, e = .sendTo b bytes ∧ b ∈ st := by
  obtain ⟨o, _, ho⟩ := List.mem_flatMap.1 h
  cases o with
  | unicast a m =>
    simp only [deliver] at ho
    split at ho <;> simp at ho
    exact ⟨a, _, ho, ‹_›⟩
  | broadcast m order =>
    obtain ⟨b, hb, rfl⟩ := List.mem_map.1 ho
    exact ⟨b, _, rfl, mem_recipients.1 hb⟩

theorem mem_iterEffects {h : Handlers} {st : List Addr} {i : IterInput} {e : Effect}
    (he : e ∈ iterEffects h st i) :
    (∃ p ∈ i.polls, e ∈ pollEffects h i.willPing p) ∨ (∃ b ∈ i.incoming, e = .dispatchConnect b) ∨
      ∃ b bytes, e = .sendTo b bytes ∧ b ∈ nextStreams st i := by
  simp only [iterEffects, List.mem_append, List.mem_flatMap] at he
  rcases he with (he | ⟨b, hb, he⟩) | he
  · exact Or.inl he
  · exact Or.inr (Or.inl ⟨b, hb, mem_onConnect he⟩)
  · exact Or.inr (Or.inr (mem_flush he))

theorem mem_step {st : List Addr} {i : IterInput} {ex : List IterInput} {b : Addr}
    (hm : b ∈ nextStreams st i ∨ b ∈ ex.flatMap (·.incoming)) : b ∈ st ∨ b ∈ (i :: ex).flatMap (·.incoming) := by
  rw [List.flatMap_cons, List.mem_append]
  rcases hm with hm | hm
  · exact (mem_nextStreams.1 hm).elim (fun h => Or.inl h.1) (fun h => Or.inr (Or.inl h))
  · exact Or.inr (Or.inr hm)

/-- So neither `exit` nor `panic` is an effect of the executed iterations, and nothing happens for a client that
never connects. -/
theorem addr_body {h : Handlers} : ∀ (ex : List IterInput) (st : List Addr), BodyOk st ex →
    ∀ e ∈ bodyEffects h st ex, ∃ b, addrOf e = some b ∧ (b ∈ st ∨ b ∈ ex.flatMap (·.incoming))
  | [], _, _, _, he => by cases he
  | i :: ex, st, hok, e, he => by
    rcases List.mem_append.1 he with he | he
    · rcases mem_iterEffects he with ⟨p, hp, hep⟩ | ⟨b, hb, rfl⟩ | ⟨b, bytes, rfl, hb⟩
      · exact ⟨p.addr, addr_pollEffects hep, Or.inl (hok.1.2 p hp)⟩
      · exact ⟨b, rfl, Or.inr (List.mem_append_left _ hb)⟩
      · exact ⟨b, rfl, mem_step (Or.inl hb)⟩
    · obtain ⟨b, hb, hm⟩ := addr_body ex _ hok.2 e he
      exact ⟨b, hb, mem_step hm⟩

theorem polled_body : ∀ (ex : List IterInput) (st : List Addr), BodyOk st ex →
    ∀ j ∈ ex, ∀ p ∈ j.polls, p.addr ∈ st ∨ p.addr ∈ ex.flatMap (·.incoming)
  | i :: ex, st, hok, j, hj, p, hp => by
    rcases List.mem_cons.1 hj with rfl | hj
    · exact Or.inl (hok.1.2 p hp)
    · exact mem_step (polled_body ex _ hok.2 j hj p hp)

theorem flatMap_onMessage (h : Handlers) (a : Addr) (ms : List Msg) :
    ms.flatMap (onMessage h a) = if h.message then ms.map (.dispatchMessage a) else [] :=
  flatMap_guard h.message (Effect.dispatchMessage a) ms

theorem flatMap_onConnect (h : Handlers) (inc : List Addr) :
    inc.flatMap (onConnect h) = if h.connect then inc.map .dispatchConnect else [] :=
  flatMap_guard h.connect Effect.dispatchConnect inc

theorem msgOf_pollEffects (h : Handlers) (a : Addr) (w : Bool) (p : Poll) :
    (pollEffects h w p).filterMap (msgOf a) =
      if h.message then (if p.addr = a then msgs p.results else []) else [] := by
  have hend : ∀ e ∈ pollEnd h w p, msgOf a e = none := fun e he => by
    rcases mem_pollEnd he with ⟨_, rfl | rfl⟩ | rfl <;> rfl
  rw [pollEffects, List.filterMap_append, List.filterMap_eq_nil_iff.2 hend, List.append_nil, flatMap_onMessage]
  cases h.message
  · rfl
  · by_cases hpa : p.addr = a <;> simp [hpa, msgOf, Function.comp_def]

theorem msgOf_iterEffects (h : Handlers) (a : Addr) (st : List Addr) (i : IterInput) :
    (iterEffects h st i).filterMap (msgOf a) =
      if h.message then (i.polls.flatMap fun p => if p.addr = a then msgs p.results else []) else [] := by
  have hconn : ∀ e ∈ i.incoming.flatMap (onConnect h), msgOf a e = none := fun e he => by
    obtain ⟨b, _, hb⟩ := List.mem_flatMap.1 he
    rw [mem_onConnect hb]; rfl
  have hflush : ∀ e ∈ flush (nextStreams st i) i.outgoing, msgOf a e = none := fun e he => by
    obtain ⟨b, bytes, rfl, _⟩ := mem_flush he; rfl
  rw [iterEffects, List.filterMap_append, List.filterMap_append, List.filterMap_eq_nil_iff.2 hconn,
    List.filterMap_eq_nil_iff.2 hflush, List.filterMap_flatMap]
  simp only [msgOf_pollEffects, List.append_nil]
  cases h.message <;> simp

theorem msgOf_body (h : Handlers) (a : Addr) : ∀ (ex : List IterInput) (st : List Addr),
    (bodyEffects h st ex).filterMap (msgOf a) =
      if h.message then (ex.flatMap fun i => i.polls.flatMap fun p => if p.addr = a then msgs p.results else [])
      else []
  | [], _ => by simp [bodyEffects]
  | i :: ex, st => by
    rw [bodyEffects, List.filterMap_append, msgOf_iterEffects, msgOf_body h a ex]
    cases h.message <;> simp

theorem count_connect_iterEffects (h : Handlers) (a : Addr) (st : List Addr) (i : IterInput) :
    (iterEffects h st i).count (.dispatchConnect a) = if h.connect then i.incoming.count a else 0 := by
  have hpolls : Effect.dispatchConnect a ∉ i.polls.flatMap (pollEffects h i.willPing) := fun hm => by
    obtain ⟨p, _, he⟩ := List.mem_flatMap.1 hm
    rcases mem_pollEffects he with ⟨m, hm⟩ | he
    · cases hm
    · rcases mem_pollEnd he with ⟨_, h | h⟩ | h <;> cases h
  have hflush : Effect.dispatchConnect a ∉ flush (nextStreams st i) i.outgoing := fun hm => by
    obtain ⟨b, bytes, hb, _⟩ := mem_flush hm
    cases hb
  rw [iterEffects, List.count_append, List.count_append, flatMap_onConnect,
    List.count_eq_zero_of_not_mem hpolls, List.count_eq_zero_of_not_mem hflush, Nat.zero_add, Nat.add_zero]
  cases h.connect
  · rfl
  · exact count_map_of_inj (fun _ _ e => Effect.dispatchConnect.inj e) a _

theorem count_connect_body (h : Handlers) (a : Addr) : ∀ (ex : List IterInput) (st : List Addr),
    (bodyEffects h st ex).count (.dispatchConnect a) =
      if h.connect then (ex.flatMap (·.incoming)).count a else 0
  | [], _ => by simp [bodyEffects]
  | i :: ex, st => by
    rw [bodyEffects, List.count_append, count_connect_iterEffects, count_connect_body h a ex, List.flatMap_cons,
      List.count_append]
    cases h.connect <;> rfl

theorem mem_takeWhile_append {α : Type} {p : α → Bool} : ∀ {L R : List α} {e : α},
    e ∈ (L ++ R).takeWhile p → e ∈ L ∨ ((∀ x ∈ L, p x = true) ∧ e ∈ R.takeWhile p)
  | [], _, _, h => Or.inr ⟨nofun, h⟩
  | x :: L, R, e, h => by
    rw [List.cons_append, List.takeWhile_cons] at h
    split at h
    · rcases List.mem_cons.1 h with rfl | h
      · exact Or.inl List.mem_cons_self
      · exact (mem_takeWhile_append h).imp (List.mem_cons_of_mem _)
          (.imp (fun hL => List.forall_mem_cons.2 ⟨‹_›, hL⟩) id)
    · cases h

theorem msg_of_table {h : Handlers} {st : List Addr} {i : IterInput} (hp : ∀ p ∈ i.polls, p.addr ∈ st)
    {a : Addr} {e : Effect} (he : e ∈ iterEffects h st i) (hm : isMsgOf a e = true) : a ∈ st := by
  cases e <;> simp [isMsgOf, msgOf] at hm
  subst hm
  rcases mem_iterEffects he with ⟨p, hp', hep⟩ | ⟨_, _, hb⟩ | ⟨_, _, hb, _⟩
  · cases Option.some.inj ((addr_pollEffects hep).symm.trans rfl)
    exact hp p hp'
  · cases hb
  · cases hb

/-- A message comes from a poll, polls are of streams of the table, and `a` enters the table only in the iteration
that dispatches its connect. `X` is what follows the executed iterations in the trace. -/
theorem before_connect {h : Handlers} (hc : h.connect = true) (a : Addr) {X : List Effect}
    (hX : ∀ e ∈ X, isMsgOf a e = false) : ∀ (ex : List IterInput) (st : List Addr), a ∉ st → BodyOk st ex →
    ∀ e ∈ (bodyEffects h st ex ++ X).takeWhile (· != .dispatchConnect a), isMsgOf a e = false
  | [], _, _, _, e, he => hX e ((List.takeWhile_sublist _).subset he)
  | i :: ex, st, hst, hok, e, he => by
    rw [bodyEffects, List.append_assoc] at he
    rcases mem_takeWhile_append he with he | ⟨hall, he⟩
    · exact Bool.eq_false_iff.2 fun hm => hst (msg_of_table hok.1.2 he hm)
    · have hinc : a ∉ i.incoming := fun hinc => by
        have := hall (.dispatchConnect a) (by simp [iterEffects, flatMap_onConnect, hc, hinc])
        simp at this
      exact before_connect hc a hX ex _ (fun hn => (mem_nextStreams.1 hn).elim (fun h => hst h.1) hinc) hok.2 e he

def closers (a : Addr) (i : IterInput) : List Poll := i.polls.filter fun p => p.addr == a && closes p

theorem closers_eq_nil_of_closedIn {a : Addr} {i : IterInput} (h : closedIn i a = false) : closers a i = [] := by
  unfold closers
  rw [List.filter_eq_nil_iff]
  intro p hp hp'
  simp only [closedIn, List.any_eq_false] at h
  exact h p hp hp'

theorem closer_of_closedIn {a : Addr} {i : IterInput} (h : closedIn i a = true) :
    ∃ p ∈ i.polls, p.addr = a ∧ closes p = true := by
  simpa [closedIn] using h

theorem count_onGone {h : Handlers} {a : Addr} {x : Effect} (hx : x ∈ onGone h a) : (onGone h a).count x = 1 := by
  cases hd : h.disconnect <;> simp [onGone, hd] at hx ⊢
  · simp [hx]
  · rcases hx with rfl | rfl <;> simp

theorem count_gone_pollEffects {h : Handlers} {a : Addr} {x : Effect}
    (hx : x = .dispatchDisconnect a ∨ x = .drop a) (w : Bool) (p : Poll) :
    (pollEffects h w p).count x = if (p.addr == a && closes p) = true then (onGone h a).count x else 0 := by
  have hmsgs : x ∉ (msgs p.results).flatMap (onMessage h p.addr) := fun hm => by
    obtain ⟨m, _, hm⟩ := List.mem_flatMap.1 hm
    rcases hx with rfl | rfl <;> cases mem_onMessage hm
  rw [pollEffects, List.count_append, List.count_eq_zero_of_not_mem hmsgs, Nat.zero_add]
  by_cases hc : p.addr = a ∧ closes p = true
  · rw [pollEnd, if_pos hc.2, hc.1, if_pos (by simp [hc.2])]
  · rw [if_neg (by simpa using hc)]
    apply List.count_eq_zero_of_not_mem
    intro hm
    rcases mem_pollEnd hm with ⟨hcl, hg⟩ | rfl
    · refine hc ⟨?_, hcl⟩
      rcases hx with rfl | rfl <;> rcases hg with hg | hg <;> cases hg <;> rfl
    · rcases hx with hx | hx <;> cases hx

theorem count_gone_polls {h : Handlers} {a : Addr} {x : Effect} (hx : x = .dispatchDisconnect a ∨ x = .drop a)
    (w : Bool) : ∀ ps : List Poll, (ps.flatMap (pollEffects h w)).count x =
      (ps.filter fun p => p.addr == a && closes p).length * (onGone h a).count x
  | [] => by simp
  | p :: ps => by
    rw [List.flatMap_cons, List.count_append, count_gone_pollEffects hx, count_gone_polls hx w ps, List.filter_cons]
    split <;> simp [Nat.add_mul, Nat.add_comm]

theorem count_gone_iterEffects {h : Handlers} {a : Addr} {x : Effect}
    (hx : x = .dispatchDisconnect a ∨ x = .drop a) (st : List Addr) (i : IterInput) :
    (iterEffects h st i).count x = (closers a i).length * (onGone h a).count x := by
  have hrest : x ∉ i.incoming.flatMap (onConnect h) ++ flush (nextStreams st i) i.outgoing := fun hm => by
    rcases List.mem_append.1 hm with hm | hm
    · obtain ⟨b, _, hb⟩ := List.mem_flatMap.1 hm
      rcases hx with rfl | rfl <;> cases mem_onConnect hb
    · obtain ⟨b, bytes, hb, _⟩ := mem_flush hm
      rcases hx with rfl | rfl <;> cases hb
  rw [iterEffects, List.append_assoc, List.count_append, count_gone_polls hx,
    List.count_eq_zero_of_not_mem hrest, Nat.add_zero, closers]

theorem count_gone_body {h : Handlers} {a : Addr} {x : Effect} (hx : x = .dispatchDisconnect a ∨ x = .drop a) :
    ∀ (ex : List IterInput) (st : List Addr), (bodyEffects h st ex).count x =
      (ex.map fun i => (closers a i).length).sum * (onGone h a).count x
  | [], _ => by simp [bodyEffects]
  | i :: ex, st => by
    rw [bodyEffects, List.count_append, count_gone_iterEffects hx, count_gone_body hx ex, List.map_cons,
      List.sum_cons, Nat.add_mul]

theorem nodup_step {st : List Addr} {i : IterInput} {ex : List IterInput}
    (h : (st ++ (i :: ex).flatMap (·.incoming)).Nodup) :
    (nextStreams st i ++ ex.flatMap (·.incoming)).Nodup ∧
      ∀ a ∈ st, a ∉ i.incoming ∧ a ∉ ex.flatMap (·.incoming) := by
  rw [List.flatMap_cons, List.nodup_append] at h
  obtain ⟨h1, h2, h3⟩ := h
  obtain ⟨_, h5, h6⟩ := List.nodup_append.1 h2
  refine ⟨List.nodup_append.2 ⟨nodup_nextStreams i h1, h5, ?_⟩, fun a ha =>
    ⟨fun h => h3 a ha a (List.mem_append_left _ h) rfl, fun h => h3 a ha a (List.mem_append_right _ h) rfl⟩⟩
  intro a ha b hb e
  subst e
  rcases mem_nextStreams.1 ha with h | h
  · exact h3 a h.1 a (List.mem_append_right _ hb) rfl
  · exact h6 a h a hb rfl

theorem gone_after_close {a : Addr} {st : List Addr} {i : IterInput} {ex : List IterInput}
    (hmem : ∀ p ∈ i.polls, p.addr ∈ st) (hnd : (st ++ (i :: ex).flatMap (·.incoming)).Nodup)
    (hcl : closedIn i a = true) : a ∈ st ∧ a ∉ nextStreams st i ∧ a ∉ ex.flatMap (·.incoming) := by
  obtain ⟨p, hp, rfl, _⟩ := closer_of_closedIn hcl
  have hst := (nodup_step hnd).2 _ (hmem p hp)
  exact ⟨hmem p hp, fun hn => (mem_nextStreams.1 hn).elim (fun h => by simp [hcl] at h) hst.1, hst.2⟩

/-- The shape of the iteration in which `a` is found closed: what comes before the disconnect dispatch and the
removal contains neither, and what comes after them in that iteration is not about `a`. -/
theorem closing_iter_split {h : Handlers} {a : Addr} {st : List Addr} {i : IterInput} {ex : List IterInput}
    (hpo : Polled st i.polls) (hnd : (st ++ (i :: ex).flatMap (·.incoming)).Nodup) (hcl : closedIn i a = true) :
    ∃ L R, iterEffects h st i = L ++ onGone h a ++ R ∧ (∀ x ∈ onGone h a, x ∉ L) ∧
      ∀ e ∈ R, addrOf e ≠ some a := by
  obtain ⟨hast, hnot, _⟩ := gone_after_close hpo.2 hnd hcl
  obtain ⟨p, hp, rfl, hpc⟩ := closer_of_closedIn hcl
  obtain ⟨l1, l2, hsplit⟩ := List.append_of_mem hp
  have hnd2 := hpo.1
  rw [hsplit, List.map_append, List.map_cons, List.nodup_append, List.nodup_cons] at hnd2
  obtain ⟨_, ⟨hl2, _⟩, hl1⟩ := hnd2
  have hother : ∀ l : List Poll, (∀ q ∈ l, q.addr ≠ p.addr) →
      ∀ e ∈ l.flatMap (pollEffects h i.willPing), addrOf e ≠ some p.addr := fun l hl e he hadr => by
    obtain ⟨q, hq, heq⟩ := List.mem_flatMap.1 he
    exact hl q hq (Option.some.inj ((addr_pollEffects heq).symm.trans hadr))
  refine ⟨l1.flatMap (pollEffects h i.willPing) ++ (msgs p.results).flatMap (onMessage h p.addr),
    l2.flatMap (pollEffects h i.willPing) ++ i.incoming.flatMap (onConnect h) ++
      flush (nextStreams st i) i.outgoing, ?_, ?_, ?_⟩
  · rw [iterEffects, hsplit, List.flatMap_append, List.flatMap_cons, pollEffects, pollEnd, if_pos hpc]
    simp only [List.append_assoc]
  · intro x hx hm
    rcases List.mem_append.1 hm with hm | hm
    · refine hother l1 (fun q hq e => hl1 _ (List.mem_map_of_mem hq) _ List.mem_cons_self e) x hm ?_
      rcases mem_onGone hx with rfl | rfl <;> rfl
    · obtain ⟨m, _, hxm⟩ := List.mem_flatMap.1 hm
      rcases mem_onGone hx with rfl | rfl <;> cases mem_onMessage hxm
  · intro e he hadr
    rcases List.mem_append.1 he with he | he
    · rcases List.mem_append.1 he with he | he
      · exact hother l2 (fun q hq e => hl2 (e ▸ List.mem_map_of_mem hq)) e he hadr
      · obtain ⟨b, hb, heb⟩ := List.mem_flatMap.1 he
        rw [mem_onConnect heb] at hadr
        cases hadr
        exact ((nodup_step hnd).2 _ hast).1 hb
    · obtain ⟨b, bytes, rfl, hb⟩ := mem_flush he
      cases hadr
      exact hnot hb

/-- When no address is used twice, the disconnect dispatch and removal of `a` occur at most once, together: the trace
splits at them (`M`), neither occurs before, and nothing after is about `a`. -/
theorem gone_split (h : Handlers) (a : Addr) : ∀ (ex : List IterInput) (st : List Addr), BodyOk st ex →
    (st ++ ex.flatMap (·.incoming)).Nodup →
    ∃ L M R, bodyEffects h st ex = L ++ M ++ R ∧ (M = [] ∨ M = onGone h a) ∧ (∀ x ∈ onGone h a, x ∉ L) ∧
      ∀ e ∈ R, addrOf e ≠ some a
  | [], _, _, _ => ⟨[], [], [], rfl, Or.inl rfl, fun _ _ => List.not_mem_nil, nofun⟩
  | i :: ex, st, hok, hnd => by
    cases hcl : closedIn i a
    · obtain ⟨L, M, R, hB, hM, hL, hR⟩ := gone_split h a ex _ hok.2 (nodup_step hnd).1
      refine ⟨iterEffects h st i ++ L, M, R, by rw [bodyEffects, hB]; simp only [List.append_assoc], hM,
        fun x hx hm => (List.mem_append.1 hm).elim (List.count_eq_zero.1 ?_) (hL x hx), hR⟩
      rw [count_gone_iterEffects (mem_onGone hx), closers_eq_nil_of_closedIn hcl]
      exact Nat.zero_mul _
    · obtain ⟨_, hnot, hinc⟩ := gone_after_close hok.1.2 hnd hcl
      obtain ⟨L, R, hIE, hL, hR⟩ := closing_iter_split (h := h) hok.1 hnd hcl
      refine ⟨L, onGone h a, R ++ bodyEffects h (nextStreams st i) ex, by rw [bodyEffects, hIE, List.append_assoc],
        Or.inr rfl, hL, fun e he => ?_⟩
      rcases List.mem_append.1 he with he | he
      · exact hR e he
      · obtain ⟨b, hb, hm⟩ := addr_body ex _ hok.2 e he
        intro hadr
        cases hb.symm.trans hadr
        exact hm.elim hnot hinc

theorem mem_after {α : Type} [BEq α] [LawfulBEq α] {x e : α} {L M : List α} (hL : x ∉ L)
    (he : e ∈ ((L ++ M).dropWhile (· != x)).drop 1) : e ∈ M.tail := by
  rw [List.dropWhile_append_of_pos (p := (· != x)) fun y hy => bne_iff_ne.2 fun e => hL (e ▸ hy)] at he
  induction M with
  | nil => cases he
  | cons y M ih =>
    rw [List.dropWhile_cons] at he
    split at he
    · exact List.mem_of_mem_tail (ih he)
    · exact he

/-- A trace that splits as in `gone_split` removes `a` at most once, and nothing behind the removal, or behind the
disconnect dispatch, concerns `a`. -/
theorem once_then_silence_of_split {h : Handlers} {a : Addr} {L M R : List Effect} (hM : M = [] ∨ M = onGone h a)
    (hL : ∀ x ∈ onGone h a, x ∉ L) (hR : ∀ e ∈ R, addrOf e ≠ some a) :
    (L ++ M ++ R).count (.drop a) ≤ 1 ∧
    ∀ x ∈ onGone h a, ∀ e ∈ ((L ++ M ++ R).dropWhile (· != x)).drop 1, concerns a e = false := by
  have hdrop : Effect.drop a ∈ onGone h a := by simp [onGone]
  rw [List.append_assoc]
  refine ⟨?_, fun x hx e he => ?_⟩
  · rw [List.count_append, List.count_append, List.count_eq_zero_of_not_mem (hL _ hdrop),
      List.count_eq_zero_of_not_mem fun hm => hR _ hm rfl]
    rcases hM with rfl | rfl
    · exact Nat.zero_le _
    · rw [count_onGone hdrop]
      exact Nat.le_refl _
  · -- behind the head of `M ++ R` there is, of `M`, at most `drop a`
    have he := mem_after (hL x hx) he
    have : e ∈ Effect.drop a :: R := by
      rcases hM with rfl | rfl
      · exact List.mem_cons_of_mem _ (List.mem_of_mem_tail he)
      · unfold onGone at he
        split at he
        · exact he
        · exact List.mem_cons_of_mem _ he
    rcases List.mem_cons.1 this with rfl | he
    · rfl
    · exact (silent_of_addr_ne (hR e he)).1

theorem notPolled_body (a : Addr) : ∀ (ex : List IterInput) (st : List Addr), BodyOk st ex →
    (st ++ ex.flatMap (·.incoming)).Nodup → notPolledAfterClose a ex = true
  | [], _, _, _ => rfl
  | i :: ex, st, hok, hnd => by
    rw [notPolledAfterClose]
    split
    · rename_i hcl
      obtain ⟨_, hnot, hinc⟩ := gone_after_close hok.1.2 hnd hcl
      simp only [List.all_eq_true, bne_iff_ne, ne_eq]
      intro j hj q hq e
      exact (polled_body ex _ hok.2 j hj q hq).elim (e ▸ hnot) (e ▸ hinc)
    · exact notPolled_body a ex _ hok.2 (nodup_step hnd).1

theorem admitted_sublist : ∀ is : List IterInput, (admitted is).Sublist (is.flatMap (·.incoming))
  | [] => .slnil
  | i :: is => by
    rw [admitted, executed, List.flatMap_cons]
    split
    · exact List.nil_sublist _
    · exact (List.Sublist.refl _).append (admitted_sublist is)

theorem nodup_admitted {s : AppState} {is : List IterInput} (hd : DistinctPeers s is) :
    (s.streams ++ admitted is).Nodup :=
  hd.sublist ((List.Sublist.refl _).append (admitted_sublist is))

/-- Every effect of a consistent run, the final `exit` apart, is about a client that is in the table at the start
or is admitted during the run. -/
theorem addr_trace {h : Handlers} {s : AppState} {is : List IterInput} (hp : s.phase = .running)
    (hok : RunOk h s is = true) {e : Effect} (he : e ∈ (runLoop h s is).2) :
    e = .exit ∨ ∃ b, addrOf e = some b ∧ (b ∈ s.streams ∨ b ∈ admitted is) := by
  obtain ⟨X, hX, hT, hB⟩ := run_trace hp hok
  rw [hT] at he
  exact (List.mem_append.1 he).symm.imp (hX e) (addr_body _ _ hB e)

/-- The removals and disconnect dispatches of `a` in the trace are as many as the times `a` was found closed,
whether or not any address is used twice. -/
theorem count_gone (h : Handlers) (a : Addr) {x : Effect} (hx : x = .dispatchDisconnect a ∨ x = .drop a)
    {s : AppState} {is : List IterInput} (hp : s.phase = .running) (hok : RunOk h s is = true) :
    (runLoop h s is).2.count x = closings a is * (onGone h a).count x := by
  obtain ⟨X, hX, hT, _⟩ := run_trace hp hok
  rw [hT, List.count_append, count_gone_body hx, List.count_eq_zero_of_not_mem (l := X) (fun hm => by
    rcases hx with rfl | rfl <;> cases hX _ hm)]
  rfl

/-- What the disconnect dispatch (if the handler is registered) and the removal of `a` have in common: when no
address is used twice, `a` is found closed at most once, each of the two occurs as often as that, and nothing
after it concerns `a`. -/
theorem gone_once_then_silence (h : Handlers) {s : AppState} {is : List IterInput} (hp : s.phase = .running)
    (hok : RunOk h s is = true) (hd : DistinctPeers s is) (a : Addr) :
    closings a is ≤ 1 ∧ ∀ x ∈ onGone h a, (runLoop h s is).2.count x = closings a is ∧
      ∀ e ∈ ((runLoop h s is).2.dropWhile (· != x)).drop 1, concerns a e = false := by
  have hcount : ∀ x ∈ onGone h a, (runLoop h s is).2.count x = closings a is := fun x hx => by
    rw [count_gone h a (mem_onGone hx) hp hok, count_onGone hx, Nat.mul_one]
  obtain ⟨X, hX, hT, hB⟩ := run_trace hp hok
  obtain ⟨L, M, R, hsplit, hM, hL, hR⟩ := gone_split h a _ _ hB (nodup_admitted hd)
  obtain ⟨hle, hs⟩ := once_then_silence_of_split (R := R ++ X) hM hL fun e he =>
    (List.mem_append.1 he).elim (hR e) fun he => by rw [hX e he]; exact nofun
  rw [← List.append_assoc, ← hsplit, ← hT] at hle hs
  exact ⟨hcount (.drop a) (by simp [onGone]) ▸ hle, fun x hx => ⟨hcount x hx, hs x hx⟩⟩

end Humphrey.WsApp
