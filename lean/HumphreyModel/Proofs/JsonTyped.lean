import HumphreyModel.Spec.JsonTyped

/-!
The typed mapping, ground facts: integers an `f64` holds exactly, the casts, and the list helpers of
`to_json` / `from_json`.
-/
namespace Humphrey.JsonTyped
open Humphrey.Json (Value)

theorem roundMag_lt (fuel e a : Nat) (h : a < 2 ^ (53 + e)) : roundMag fuel e a = roundAt a e := by
  cases fuel <;> simp [roundMag, h]

theorem roundF64_of_lt (i : Int) (h : i.natAbs < 2 ^ 53) : roundF64 i = i := by
  unfold roundF64
  rw [roundMag_lt _ _ _ (by simpa using h)]
  simp only [roundAt, if_true]
  split <;> omega

/-- every integer of magnitude at most `2^53` is an `f64` -/
theorem f64Exact_of_le (i : Int) (h : i.natAbs ≤ 2 ^ 53) : F64Exact i := by
  unfold F64Exact
  rcases Nat.lt_or_eq_of_le h with h | h
  · exact roundF64_of_lt i h
  · have : i = 9007199254740992 ∨ i = -9007199254740992 := by omega
    rcases this with rfl | rfl <;> decide

theorem clamp_of_mem (k : NumKind) (i : Int) (h1 : k.lo ≤ i) (h2 : i ≤ k.hi) : clamp k i = i := by
  unfold clamp
  rw [if_neg (by omega), if_neg (by omega)]

/-- `*n as Self` for an integer type: truncate, then saturate -/
theorem castTo_int {k : NumKind} (hk : k.isInt = true) (n : Num) : castTo k n = .int (clamp k n.trunc) := by
  cases k <;> simp [NumKind.isInt] at hk <;> rfl

theorem mapExcept_map {α β ε : Type} (f : α → Except ε β) (g : β → α) (vs : List β)
    (h : ∀ v ∈ vs, f (g v) = .ok v) : mapExcept f (vs.map g) = .ok vs := by
  induction vs with
  | nil => simp [mapExcept]
  | cons v vs ih =>
    simp only [List.map_cons, mapExcept]
    rw [h v (by simp), ih (fun w hw => h w (by simp [hw]))]

theorem findKey_append_of_notin {N : Type} (k : Key) (pre post : List (Key × Value N))
    (h : k ∉ pre.map (·.1)) : findKey k (pre ++ post) = findKey k post := by
  induction pre with
  | nil => simp
  | cons p pre ih =>
    obtain ⟨k', v⟩ := p
    simp only [List.map_cons, List.mem_cons, not_or] at h
    simp only [List.cons_append, findKey]
    rw [if_neg (fun e => h.1 e.symm), ih h.2]

/-- with distinct names the first arm that matches a variant's name is that variant's -/
theorem findVariant_getElem {names : List Key} (hn : names.Nodup) (j : Nat) {i : Nat} (hi : i < names.length) :
    findVariant names[i] names j = some (j + i) := by
  induction names generalizing j i with
  | nil => cases hi
  | cons n ns ih =>
    obtain ⟨hn', hns⟩ := List.nodup_cons.mp hn
    cases i with
    | zero => simp [findVariant]
    | succ i =>
      have hi' : i < ns.length := Nat.lt_of_succ_lt_succ hi
      have hne : ns[i] ≠ n := fun e => hn' (e ▸ List.getElem_mem hi')
      rw [List.getElem_cons_succ, findVariant, if_neg hne, ih hns (j + 1) hi']
      congr 1; omega

theorem toJsonTuple_length : ∀ (ts : List Ty) (vs : List TVal), hasTyTuple ts vs = true →
    (toJsonTuple ts vs).length = ts.length
  | [], [], _ => by simp [toJsonTuple]
  | [], _ :: _, h | _ :: _, [], h => by simp [hasTyTuple] at h
  | t :: ts, v :: vs, h => by
    simp only [hasTyTuple, Bool.and_eq_true] at h
    simp [toJsonTuple, toJsonTuple_length ts vs h.2]

theorem toJsonFields_keys : ∀ (fs : List (Key × Ty)) (vs : List TVal), hasTyFields fs vs = true →
    (toJsonFields fs vs).map (·.1) = fs.map (·.1)
  | [], [], _ => by simp [toJsonFields]
  | [], _ :: _, h | _ :: _, [], h => by simp [hasTyFields] at h
  | (k, t) :: fs, v :: vs, h => by
    simp only [hasTyFields, Bool.and_eq_true] at h
    simp [toJsonFields, toJsonFields_keys fs vs h.2]

end Humphrey.JsonTyped
