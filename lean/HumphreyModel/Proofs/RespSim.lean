import HumphreyModel.Model.Response
import HumphreyModel.Proofs.HttpSim

/-
`Response::from_stream` (model `parseResponse`) delivers the same outcome on any two byte sources related by a
simulation: one lemma per loop of the parser, composed along its structure; the header loop is the one of
`Request::from_stream` with another error (`parseRespHeaders_eq`), so what is proved of that one carries over.
With `reader_flat_sim` this makes a result on the flat stream hold for every segmentation into reads.
-/
namespace Humphrey.Http
open Humphrey Humphrey.IO

theorem parseRespHeaders_succ {σ : Type} (S : Source σ) (fuel : Nat) (s : σ) (acc : Headers) :
    parseRespHeaders S (fuel + 1) s acc =
      if (S.readUntil Bytes.LF s).1 = Bytes.crlf then .ok (acc, (S.readUntil Bytes.LF s).2)
      else match parseRespHeaderLine (S.readUntil Bytes.LF s).1 with
        | .ok h => parseRespHeaders S fuel (S.readUntil Bytes.LF s).2 (acc ++ [h])
        | .err e => .err e
        | .panic => .panic := rfl

theorem parseRespHeaderLine_eq (line : Bytes) :
    parseRespHeaderLine line = (parseHeaderLine line).mapErr fun _ => .response := by
  unfold parseHeaderLine parseRespHeaderLine
  cases Bytes.utf8Valid line
  · rfl
  · cases Bytes.stripCrlf line with
    | none => rfl
    | some body =>
      dsimp only
      cases Bytes.splitOnce 58 body with
      | mk name r => cases r <;> rfl

theorem parseRespHeaders_eq {σ : Type} (S : Source σ) (fuel : Nat) (s : σ) (acc : Headers) :
    parseRespHeaders S fuel s acc = (parseHeaders S fuel s acc).mapErr fun _ => .response := by
  induction fuel generalizing s acc with
  | zero => rfl
  | succ fuel ih =>
    rw [parseRespHeaders_succ, parseHeaders_succ, parseRespHeaderLine_eq]
    split
    · rfl
    · cases parseHeaderLine (S.readUntil Bytes.LF s).1 with
      | ok h => exact ih _ _
      | err e => rfl
      | panic => rfl

section
variable {σ₁ σ₂ : Type} {S₁ : Source σ₁} {S₂ : Source σ₂} {R : σ₁ → σ₂ → Prop} (sim : Sim S₁ S₂ R)
include sim

theorem parseRespHeaders_sim (fuel : Nat) (s₁ : σ₁) (s₂ : σ₂) (acc : Headers) (h : R s₁ s₂) :
    OutRel R (parseRespHeaders S₁ fuel s₁ acc) (parseRespHeaders S₂ fuel s₂ acc) := by
  rw [parseRespHeaders_eq, parseRespHeaders_eq]
  exact (parseHeaders_sim sim fuel s₁ s₂ acc h).mapErr _

theorem parseChunk_sim (s₁ : σ₁) (s₂ : σ₂) (h : R s₁ s₂) :
    OutRel R (parseChunk S₁ s₁) (parseChunk S₂ s₂) := by
  obtain ⟨hl, hr⟩ := sim.readUntil Bytes.LF s₁ s₂ h
  simp only [parseChunk]
  rw [hl]
  by_cases hu : Bytes.utf8Valid (S₂.readUntil Bytes.LF s₂).1
  · simp only [hu, Bool.not_true, Bool.false_eq_true, if_false]
    cases hp : Bytes.parseHexUsize (Bytes.trimEnd (S₂.readUntil Bytes.LF s₂).1) with
    | none => exact rfl
    | some n =>
      cases n with
      | zero =>
        simp only []
        rcases sim.readExact_cases 2 hr with ⟨e₁, e₂⟩ | ⟨a, t₁, t₂, e₁, e₂, ht⟩ <;> rw [e₁, e₂]
        · exact rfl
        · exact ⟨rfl, ht⟩
      | succ n =>
        simp only []
        rcases sim.readExact_cases (n + 1) hr with ⟨e₁, e₂⟩ | ⟨a, t₁, t₂, e₁, e₂, ht⟩ <;> rw [e₁, e₂]
        · exact rfl
        · simp only []
          rcases sim.readExact_cases 2 ht with ⟨f₁, f₂⟩ | ⟨b, u₁, u₂, f₁, f₂, hu'⟩ <;> rw [f₁, f₂]
          · exact rfl
          · exact ⟨rfl, hu'⟩
  · simp only [hu, Bool.not_false, if_true]
    exact rfl

theorem parseChunks_sim (fuel : Nat) (s₁ : σ₁) (s₂ : σ₂) (acc : Bytes) (h : R s₁ s₂) :
    OutRel R (parseChunks S₁ fuel s₁ acc) (parseChunks S₂ fuel s₂ acc) := by
  induction fuel generalizing s₁ s₂ acc with
  | zero => exact rfl
  | succ fuel ih =>
    simp only [parseChunks]
    rcases (parseChunk_sim sim s₁ s₂ h).elim with ⟨o, t₁, t₂, e₁, e₂, ht⟩ | ⟨e, e₁, e₂⟩ | ⟨e₁, e₂⟩
    · rw [e₁, e₂]
      cases o with
      | none => exact ⟨rfl, ht⟩
      | some d => exact ih _ _ _ ht
    · rw [e₁, e₂]; exact rfl
    · rw [e₁, e₂]; trivial

theorem readRest_sim (fuel : Nat) (s₁ : σ₁) (s₂ : σ₂) (acc : Bytes) (h : R s₁ s₂) :
    (readRest S₁ fuel s₁ acc).1 = (readRest S₂ fuel s₂ acc).1 ∧
    R (readRest S₁ fuel s₁ acc).2 (readRest S₂ fuel s₂ acc).2 := by
  induction fuel generalizing s₁ s₂ acc with
  | zero => simp [readRest, h]
  | succ fuel ih =>
    obtain ⟨hl, hr⟩ := sim.readUntil Bytes.LF s₁ s₂ h
    simp only [readRest]
    rw [hl]
    split
    · exact ⟨rfl, hr⟩
    · exact ih _ _ _ hr

theorem parseBody_sim (code : Nat) (hs : Headers) (s₁ : σ₁) (s₂ : σ₂) (h : R s₁ s₂) :
    OutRel R (parseBody S₁ code hs s₁) (parseBody S₂ code hs s₂) := by
  simp only [parseBody]
  by_cases hte : hs.get hTransferEncoding = some chunkedValue
  · simp only [hte, if_true]
    rw [sim.remaining _ _ h]
    rcases (parseChunks_sim sim (S₂.remaining s₂ + 1) s₁ s₂ [] h).elim with
      ⟨a, t₁, t₂, e₁, e₂, ht⟩ | ⟨e, e₁, e₂⟩ | ⟨e₁, e₂⟩ <;> rw [e₁, e₂]
    · exact ⟨rfl, ht⟩
    · exact rfl
    · exact trivial
  · simp only [hte, if_false]
    cases hs.get hContentLength with
    | none =>
      simp only []
      split
      · exact ⟨rfl, h⟩
      · rw [sim.remaining _ _ h]
        obtain ⟨hb, hr⟩ := readRest_sim sim (S₂.remaining s₂ + 1) s₁ s₂ [] h
        exact ⟨by rw [hb], hr⟩
    | some cl =>
      simp only []
      cases Bytes.parseUsize cl with
      | none => exact rfl
      | some n =>
        simp only []
        rcases sim.readExact_cases n h with ⟨e₁, e₂⟩ | ⟨a, t₁, t₂, e₁, e₂, ht⟩ <;> rw [e₁, e₂]
        · exact rfl
        · exact ⟨rfl, ht⟩

theorem parseResponse_sim (s₁ : σ₁) (s₂ : σ₂) (h : R s₁ s₂) :
    OutRel R (parseResponse S₁ s₁) (parseResponse S₂ s₂) := by
  obtain ⟨hl, hr⟩ := sim.readUntil Bytes.LF s₁ s₂ h
  simp only [parseResponse]
  rw [hl]
  cases parseStatusLine (S₂.readUntil Bytes.LF s₂).1 with
  | none => exact rfl
  | some vc =>
    obtain ⟨version, c⟩ := vc
    simp only []
    rw [sim.remaining _ _ hr]
    rcases (parseRespHeaders_sim sim (S₂.remaining (S₂.readUntil Bytes.LF s₂).2 + 1) _ _ [] hr).elim with
      ⟨hs, t₁, t₂, e₁, e₂, ht⟩ | ⟨e, e₁, e₂⟩ | ⟨e₁, e₂⟩ <;> rw [e₁, e₂]
    · simp only []
      rcases (parseBody_sim sim c hs t₁ t₂ ht).elim with
        ⟨⟨hs', body⟩, u₁, u₂, f₁, f₂, hu⟩ | ⟨e, f₁, f₂⟩ | ⟨f₁, f₂⟩ <;> rw [f₁, f₂]
      · exact ⟨rfl, hu⟩
      · exact rfl
      · exact trivial
    · exact rfl
    · exact trivial

end

theorem parseResponse_reader_flat (reads : List Bytes) :
    OutRel (fun (t : Reader) b => t.rest = b)
      (parseResponse readerSource ⟨[], reads⟩) (parseResponse flatSource reads.flatten) :=
  parseResponse_sim reader_flat_sim ⟨[], reads⟩ reads.flatten (by simp [Reader.rest])

/-- A result on the flat stream holds for every way of cutting the stream into reads. -/
theorem parseResponse_any_reads (reads : List Bytes) (r : Response) (rest : Bytes)
    (h : parseResponse flatSource reads.flatten = .ok (r, rest)) :
    ∃ t, parseResponse readerSource ⟨[], reads⟩ = .ok (r, t) ∧ t.rest = rest :=
  (h ▸ parseResponse_reader_flat reads).of_ok_right

end Humphrey.Http
