import HumphreyModel.Proofs.HttpMsgConn
import HumphreyModel.Proofs.HttpReqParsed
/-
What `Request::from_stream` (model `parseRequest`) guarantees about the text the response echoes:
the version is non-empty and free of SP and LF, the `Connection` value is free of LF and has no
leading white space (all of it part of `Request.WFParsed`). What it does NOT guarantee is the absence
of a bare CR (`NoBareCR`); but every echoed text sits, in the bytes the request consumed before its
body, immediately before a CR (`BeforeCR`), which is what a condition on the byte stream needs
(`Proofs/ConnStream.lean`).
-/
namespace Humphrey.Http
open Humphrey Humphrey.Bytes Humphrey.IO

def BeforeCR (s v : Bytes) : Prop := ∃ p q, s = p ++ v ++ 13 :: q

theorem BeforeCR.of_infix {l s v : Bytes} (h : BeforeCR l v) (hl : l <:+: s) : BeforeCR s v := by
  obtain ⟨p, q, rfl⟩ := h
  obtain ⟨a, c, rfl⟩ := hl
  exact ⟨a ++ p, q ++ c, by simp⟩

/-- A header value is the end of its line, less the CRLF. -/
theorem parseHeaderLine_shape {line : Bytes} {h : Header} (hp : parseHeaderLine line = .ok h) :
    BeforeCR line h.value := by
  obtain ⟨name, value, -, rfl, -, rfl⟩ := parseHeaderLine_inv hp
  obtain ⟨k, hk⟩ := trimStart_suffix value
  refine ⟨name ++ COLON :: value.take k, [LF], ?_⟩
  simp only [hk, crlf, LF, List.append_assoc, List.cons_append, List.take_append_drop]

/-- **Shape of a parsed request in the bytes.** `b = head ++ body ++ b'`, where `body` is the
request's content (empty when there is none) and `b'` what the parser left; the version and every
header value lie inside `head` (request line and header lines), each immediately before a CR. -/
theorem parseRequest_flat_shape (env : Env) (b : Bytes) (req : Request) (b' : Bytes)
    (h : parseRequest flatSource env b = .ok (req, b')) :
    ∃ head, b = head ++ req.content.getD [] ++ b' ∧ head ≠ [] ∧ BeforeCR head req.version ∧
      ∀ x ∈ req.headers, BeforeCR head x.value := by
  obtain ⟨x, line, lines, rfl, -, hsl, hhs, hall, -⟩ := parseRequest_flat_layout h
  obtain ⟨target, tail, -, hfull, -⟩ := parseStartLine_inv hsl
  refine ⟨x :: line ++ ((lines.map (·.1)).flatten ++ crlf), by simp only [List.append_assoc],
    List.cons_ne_nil _ _, ?_, ?_⟩
  · refine BeforeCR.of_infix ⟨req.method.name ++ SP :: target ++ [SP], LF :: tail, ?_⟩ ⟨[], _, rfl⟩
    exact hfull.trans (by simp only [CR, List.append_assoc, List.cons_append, List.nil_append])
  · intro h hm
    obtain ⟨p, hp, rfl⟩ := List.mem_map.mp (hhs ▸ hm)
    obtain ⟨a, c, e⟩ := List.infix_of_mem_flatten (List.mem_map_of_mem (f := (·.1)) hp)
    exact (parseHeaderLine_shape (hall p hp).2).of_infix
      ⟨x :: line ++ a, c ++ crlf, by simp only [← e, List.append_assoc]⟩

theorem parseRequest_flat_shrinks (env : Env) (s : Bytes) (req : Request) (s' : Bytes)
    (h : parseRequest flatSource env s = .ok (req, s')) : s' <:+ s ∧ s'.length < s.length := by
  obtain ⟨head, e, hne, _⟩ := parseRequest_flat_shape env s req s' h
  have := List.length_pos_iff.mpr hne
  exact ⟨⟨_, e.symm⟩, by rw [e]; simp only [List.length_append]; omega⟩

/-- SP and TAB are white-space characters (of length 1). -/
theorem wsPrefixLen_ows (b : UInt8) (t : Bytes) (h : wsPrefixLen (b :: t) = 0) : b ≠ 32 ∧ b ≠ 9 := by
  constructor <;> rintro rfl
  · rw [wsPrefixLen_sp] at h; cases h
  · rw [wsPrefixLen_tab] at h; cases h

/-- **What `from_stream` guarantees**: a parsed request echoes clean text except possibly for bare
CRs. -/
theorem parseRequest_reqOk (env : Env) (b : Bytes) (req : Request) (b' : Bytes)
    (h : parseRequest flatSource env b = .ok (req, b')) (hcr : NoBareCR req) : ReqOk req := by
  obtain ⟨wf, -⟩ := parseRequest_flat_inv env b req b' h
  refine ⟨wf.version_nonempty, fun y hy => ?_, fun c hc => ?_⟩
  · exact ⟨fun e => wf.version_chars y hy (by simp [e, SP]), hcr.version y hy,
      fun e => wf.version_chars y hy (by simp [e, LF])⟩
  · obtain ⟨hd, hm, rfl⟩ := get_some_mem hc
    refine ⟨HName.wf_known hConnection (by decide), fun y hy => ⟨hcr.connection _ hc y hy,
      fun e => wf.value_chars hd hm y hy (by simp [e, LF])⟩, fun y r e => ?_⟩
    exact wsPrefixLen_ows y r (e ▸ wf.value_trimmed hd hm ▸ wsPrefixLen_trimStart hd.value)

end Humphrey.Http
