import HumphreyModel.Proofs.ConfLines

/-!
Every line of a rendered well-formed tree is `lineClean` (contains no `\n` and does not end in
`\r`), so `str::lines` gives the rendered lines back. `WFTree`/`WFLayout` imply it:
* `\n`: every content is `ContentOk`, blanks are ` `/`\t`, comments are `commentOk`.
* trailing `\r`: a content is tight and `\r` is white space; after it come only blanks, `#` and
  comment characters (`commentOk` excludes `\r`). A `\r` *inside* a line is left alone by
  `str::lines`.
-/
namespace Humphrey.Conf

def cleanCh (c : Char) : Prop := c ≠ '\n' ∧ c ≠ '\r'

theorem clean_last_of_all {l : Str} {x : Char} (h : ∀ c ∈ l, c ≠ x) : l.getLast? ≠ some x := by
  intro e; exact h x (List.mem_of_getLast? e) rfl

theorem clean_of_all {l : Str} (h : ∀ x ∈ l, cleanCh x) : lineClean l :=
  ⟨fun c hc => (h c hc).1, clean_last_of_all (fun c hc => (h c hc).2)⟩

theorem clean_append {s t : Str} (hs : ∀ x ∈ s, cleanCh x) (ht : ∀ x ∈ t, cleanCh x) : ∀ x ∈ s ++ t, cleanCh x :=
  fun x hx => (List.mem_append.mp hx).elim (hs x) (ht x)

theorem lineClean.append {s t : Str} (hs : lineClean s) (ht : ∀ x ∈ t, cleanCh x) : lineClean (s ++ t) := by
  refine ⟨fun c hc => (List.mem_append.mp hc).elim (hs.1 c) fun h => (ht c h).1, ?_⟩
  rw [List.getLast?_append]
  cases h : t.getLast? with
  | none => exact hs.2
  | some x => exact fun e => (ht x (List.mem_of_getLast? h)).2 (Option.some.inj e)

theorem lineClean.prepend {s t : Str} (hs : ∀ x ∈ s, cleanCh x) (ht : lineClean t) : lineClean (s ++ t) := by
  refine ⟨fun c hc => (List.mem_append.mp hc).elim (fun h => (hs c h).1) (ht.1 c), ?_⟩
  rw [List.getLast?_append]
  cases h : t.getLast? with
  | none => exact clean_last_of_all fun c hc => (hs c hc).2
  | some x => exact fun e => ht.2 (h.trans e)

theorem clean_commentText {o : Option Str} (h : ∀ c, o = some c → commentOk c) :
    ∀ x ∈ commentText o, cleanCh x := by
  cases o with
  | none => intro x hx; cases hx
  | some c =>
    intro x hx
    simp only [commentText, List.mem_cons] at hx
    rcases hx with rfl | hx
    · exact ⟨by decide, by decide⟩
    · exact h c rfl x hx

theorem clean_mkLines {d : Deco} (hd : d.ok) {content : Str} (hn : ∀ c ∈ content, c ≠ '\n')
    (hr : content.getLast? ≠ some '\r') : ∀ l ∈ mkLines d content, lineClean l := by
  obtain ⟨hpre, hind, _, _, htr, hcm⟩ := hd
  have hblank : ∀ {s : Str}, (∀ x ∈ s, isBlank x = true) → ∀ x ∈ s, cleanCh x :=
    fun h x hx => (blank_facts (h x hx)).2.2
  intro l hl
  rcases List.mem_append.mp hl with hl | hl
  · obtain ⟨f, hf, rfl⟩ := List.mem_map.mp hl
    exact clean_of_all (clean_append (hblank (hpre f hf).1) (clean_commentText (hpre f hf).2))
  · rw [List.mem_singleton.mp hl]
    exact ((lineClean.prepend (hblank hind) ⟨hn, hr⟩).append (hblank htr)).append (clean_commentText hcm)

theorem ContentOk.lines {c : Str} (h : ContentOk c) {d : Deco} (hd : d.ok) :
    ∀ l ∈ mkLines d c, lineClean l :=
  clean_mkLines hd h.noNl (clean_tight_last h.tight)

theorem clean_brace : lineClean ['}'] := ⟨contentOk_brace.noNl, clean_tight_last tight_brace⟩

/-- First line, clean body, closing line: a section-like node, or the whole file. -/
theorem clean_block {d dc : Deco} (hd : d.ok) (hdc : dc.ok) {c : Str} (hc : ContentOk c)
    {body : List Str} (hb : ∀ l ∈ body, lineClean l) :
    ∀ l ∈ mkLines d c ++ body ++ mkLines dc ['}'], lineClean l := by
  intro l hl
  rcases List.mem_append.mp hl with hl | hl
  · rcases List.mem_append.mp hl with hl | hl
    · exact hc.lines hd l hl
    · exact hb l hl
  · exact contentOk_brace.lines hdc l hl

mutual
theorem clean_renderNode (lay : Layout) (hl : lay.ok) (n : Node) (hwf : WFNode n) (path : List Nat) :
    ∀ l ∈ renderNode lay path n, lineClean l := by
  have hd := (hl path).1
  cases n with
  | number k v =>
    simp only [renderNode]
    exact (kvContent_ok hd (okKey_content hwf.1) (number_value (k := k) _ hwf.2).1).lines hd
  | boolean k v =>
    simp only [renderNode]
    exact (kvContent_ok hd (okKey_content hwf.1) (valueOk_bool hwf.2)).lines hd
  | string k v =>
    simp only [renderNode]
    exact (kvContent_ok hd (okKey_content hwf.1) (valueOk_quoted hwf.2)).lines hd
  | «section» name cs =>
    rw [renderNode_section]
    exact clean_block hd (hl path).2 ((hdrOk_section hwf.1).header hd.2.2.2.1)
      (clean_renderNodes lay hl cs hwf.2 path 0)
  | host name cs =>
    rw [renderNode_host]
    exact clean_block hd (hl path).2 ((hdrOk_host hd.2.2.1 hwf.1).header hd.2.2.2.1)
      (clean_renderNodes lay hl cs hwf.2 path 0)
  | route name cs =>
    rw [renderNode_route]
    exact clean_block hd (hl path).2 ((hdrOk_route hd.2.2.1 hwf.1).header hd.2.2.2.1)
      (clean_renderNodes lay hl cs hwf.2 path 0)
theorem clean_renderNodes (lay : Layout) (hl : lay.ok) (ns : List Node) (hwf : WFNodes ns)
    (path : List Nat) (i : Nat) : ∀ l ∈ renderNodes lay path i ns, lineClean l := by
  cases ns with
  | nil => intro l h; simp [renderNodes] at h
  | cons n ns =>
    simp only [WFNodes] at hwf
    intro l h
    simp only [renderNodes, List.mem_append] at h
    rcases h with h | h
    · exact clean_renderNode lay hl n hwf.1 (i :: path) l h
    · exact clean_renderNodes lay hl ns hwf.2 path (i + 1) l h
end

theorem clean_renderLines (lay : Layout) (hl : lay.ok) (cs : List Node) (hwf : WFNodes cs) :
    ∀ l ∈ renderLines lay cs, lineClean l := by
  rw [renderLines_eq]
  exact clean_block (hl []).1 (hl []).2 contentOk_server (clean_renderNodes lay hl cs hwf [] 0)

end Humphrey.Conf
