import HumphreyModel.Model.Json
import HumphreyModel.Spec.Json

/-!
For C13: characters as numbers, one link of an `if` chain, `takeWhile` / `dropWhile` at a seam, and
`parseString` without its termination bookkeeping. Core Lean only.
-/
namespace Humphrey.Json
open Humphrey.JsonSpec

theorem char_le_iff (a b : Char) : a ≤ b ↔ a.toNat ≤ b.toNat := by
  rw [Char.le_def, UInt32.le_iff_toNat_le]; rfl

theorem char_eq_iff (c d : Char) : c = d ↔ c.toNat = d.toNat :=
  ⟨fun h => h ▸ rfl, fun h => by rw [← Char.ofNat_toNat c, ← Char.ofNat_toNat d, h]⟩

theorem char_eq_of_toNat {c : Char} {n : Nat} (h : c.toNat = n) : c = Char.ofNat n := by
  rw [← h, Char.ofNat_toNat]

theorem toNat_lt (c : Char) : c.toNat < 0x110000 := by
  have h := c.valid
  unfold UInt32.isValidChar Nat.isValidChar at h
  show c.val.toNat < _
  omega

theorem toNat_ne_of_ne {c d : Char} (h : c ≠ d) : c.toNat ≠ d.toNat :=
  mt (char_eq_iff c d).2 h

theorem char_ne {c d : Char} (h : c.toNat ≠ d.toNat) : c ≠ d := fun e => h (e ▸ rfl)

/-- One link of an `if … then some a else …` chain that returned `some c`. `split` on such a
chain gets slower with every link; this does not. -/
theorem ite_some {α : Type} {p : Prop} [Decidable p] {a c : α} {r : Option α}
    (h : (if p then some a else r) = some c) : (p ∧ a = c) ∨ (¬p ∧ r = some c) := by
  by_cases hp : p
  · rw [if_pos hp] at h; exact .inl ⟨hp, Option.some.inj h⟩
  · rw [if_neg hp] at h; exact .inr ⟨hp, h⟩

/-- `takeWhile` and `dropWhile` cut `t ++ rest` at the seam when `p` holds throughout `t` and fails at
the head of `rest`. -/
theorem takeWhile_dropWhile_append {p : Char → Bool} {t rest : List Char} (ht : ∀ x ∈ t, p x = true)
    (hr : ∀ c r, rest = c :: r → p c = false) :
    (t ++ rest).takeWhile p = t ∧ (t ++ rest).dropWhile p = rest := by
  induction t with
  | nil =>
    cases rest with
    | nil => exact ⟨rfl, rfl⟩
    | cons c r => simp [hr c r rfl]
  | cons c t ih =>
    have hc := ht c (by simp)
    have := ih (fun x hx => ht x (by simp [hx]))
    simp [hc, this]

theorem unescaped_iff (c : Char) : isUnescaped c = true ↔ Unescaped c := by
  simp [isUnescaped, Unescaped, or_assoc]

/-- `Option` plumbing used by `parseString`: put `x` in front of the parsed string. -/
def consResult (x : Char) : Option (List Char × List Char) → Option (List Char × List Char)
  | none => none
  | some (str, r) => some (x :: str, r)

@[simp] theorem consResult_none (x : Char) : consResult x none = none := rfl
@[simp] theorem consResult_some (x : Char) (p : List Char × List Char) :
    consResult x (some p) = some (x :: p.1, p.2) := rfl

/-- Unfolding of `parseString` without the termination bookkeeping. -/
theorem parseString_cons (c : Char) (rest : List Char) :
    parseString (c :: rest) =
      if c = '\\' then
        match parseEscape rest with
        | none => none
        | some (x, rest') => consResult x (parseString rest')
      else if c = '"' then some ([], rest)
      else if isUnescaped c then consResult c (parseString rest)
      else none := by
  rw [parseString]
  split
  · split
    · rename_i h; simp [h]
    · rename_i h; simp only [h]
      cases parseString _ <;> rfl
  · split
    · rfl
    · split
      · cases parseString rest <;> rfl
      · rfl

theorem parseString_nil : parseString [] = none := by rw [parseString]

end Humphrey.Json
