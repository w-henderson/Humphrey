import HumphreyModel.Proofs.Json

/-!
For C13: the number check of the model (`isNumberLexeme`, transcribing `is_json_number` of parser.rs)
against the RFC 8259 §6 grammar of the spec (`NumberLexeme`). The check is a chain of three scanners,
`numScan`, followed by a test for the end of the token. Each scanner is compared with its part of the
grammar in both directions, with an arbitrary text after the number, so that the same lemmas serve the
acceptor of the spec (`recNumber = numScan`, `Proofs/JsonRecLex.lean`).
-/
namespace Humphrey.Json
open Humphrey.JsonSpec

theorem isDigit_iff (c : Char) : isDigit c = true ↔ Digit c := by simp [isDigit, Digit]
theorem isDigit19_iff (c : Char) : isDigit19 c = true ↔ Digit19 c := by simp [isDigit19, Digit19]

theorem digit_toNat {c : Char} (h : Digit c) : 48 ≤ c.toNat ∧ c.toNat ≤ 57 := by
  unfold Digit at h
  simp only [char_le_iff] at h
  exact h

def NoDigitHead (l : List Char) : Prop := ∀ c r, l = c :: r → isDigit c = false

theorem noDigitHead_nil : NoDigitHead [] := by intro c r h; cases h

theorem noDigitHead_cons {c : Char} {r : List Char} (h : isDigit c = false) : NoDigitHead (c :: r) := by
  intro c' r' e; cases e; exact h

theorem takeWhile_digits {ds rest : List Char} (hd : ∀ d ∈ ds, Digit d) (hr : NoDigitHead rest) :
    (ds ++ rest).takeWhile isDigit = ds ∧ (ds ++ rest).dropWhile isDigit = rest :=
  takeWhile_dropWhile_append (fun d h => (isDigit_iff d).2 (hd d h)) hr

theorem dropDigits_append {ds rest : List Char} (hd : ∀ d ∈ ds, Digit d) (hr : NoDigitHead rest) :
    dropDigits (ds ++ rest) = rest :=
  (takeWhile_digits hd hr).2

theorem dropDigits_split (s : List Char) : ∃ ds, (∀ d ∈ ds, Digit d) ∧ s = ds ++ dropDigits s :=
  ⟨s.takeWhile isDigit, fun d hd => (isDigit_iff d).1 (List.all_eq_true.1 List.all_takeWhile d hd),
    List.takeWhile_append_dropWhile.symm⟩

theorem digits1_head {ds : List Char} (h : Digits1 ds) :
    ∃ d t, ds = d :: t ∧ isDigit d = true ∧ ∀ x ∈ t, Digit x := by
  obtain ⟨hne, hall⟩ := h
  cases ds with
  | nil => exact absurd rfl hne
  | cons d t => exact ⟨d, t, rfl, (isDigit_iff d).2 (hall d (by simp)), fun x hx => hall x (by simp [hx])⟩

theorem digits1_of {d : Char} {t : List Char} (hd : isDigit d = true) :
    ∃ ds, Digits1 ds ∧ d :: t = ds ++ dropDigits t := by
  obtain ⟨ds, h1, h2⟩ := dropDigits_split t
  refine ⟨d :: ds, ⟨by simp, ?_⟩, by rw [List.cons_append, ← h2]⟩
  intro x hx
  rcases List.mem_cons.1 hx with rfl | hx
  · exact (isDigit_iff _).1 hd
  · exact h1 x hx

/-- what may follow a number lexeme without extending it -/
def NumFollow (l : List Char) : Prop :=
  ∀ c r, l = c :: r → isDigit c = false ∧ c ≠ '.' ∧ c ≠ 'e' ∧ c ≠ 'E'

theorem numFollow_nil : NumFollow [] := by intro c r h; cases h

theorem numFollow_noDigit {l : List Char} (h : NumFollow l) : NoDigitHead l :=
  fun c r e => (h c r e).1

theorem numExp_append {e rest : List Char} (he : OptExp e) (hr : NumFollow rest) :
    numExp (e ++ rest) = some rest := by
  cases he with
  | none =>
    cases rest with
    | nil => rfl
    | cons c r =>
      obtain ⟨_, _, h1, h2⟩ := hr c r rfl
      simp [numExp, h1, h2]
  | @exp c sg ds hc hs hd =>
    obtain ⟨d, t, rfl, hd1, ht⟩ := digits1_head hd
    have hrest := dropDigits_append ht (numFollow_noDigit hr)
    have hc' : (c = 'e' || c = 'E') = true := by rcases hc with rfl | rfl <;> decide
    have hdp : d ≠ '+' := by intro e; subst e; revert hd1; decide
    have hdm : d ≠ '-' := by intro e; subst e; revert hd1; decide
    cases hs with
    | none => simp [numExp, hc', hd1, hrest, hdp, hdm]
    | minus => simp [numExp, hc', hd1, hrest]
    | plus => simp [numExp, hc', hd1, hrest]

theorem optExp_follow {e rest : List Char} (he : OptExp e) (hr : NumFollow rest) :
    NoDigitHead (e ++ rest) ∧ ∀ c r, e ++ rest = c :: r → c ≠ '.' := by
  cases he with
  | none => exact ⟨numFollow_noDigit hr, fun c r h => (hr c r h).2.1⟩
  | @exp c sg ds hc hs hd =>
    constructor
    · apply noDigitHead_cons; rcases hc with rfl | rfl <;> decide
    · intro c' r' e; cases e; rcases hc with rfl | rfl <;> decide

theorem numExp_sound {s r : List Char} (h : numExp s = some r) : ∃ e, OptExp e ∧ s = e ++ r := by
  revert h
  fun_cases numExp s
  case case1 => intro h; cases h; exact ⟨[], .none, rfl⟩
  case case3 c t hc rs d t' hrs hd =>
    intro h; cases h
    obtain ⟨ds, h1, h2⟩ := digits1_of (t := t') hd
    -- `rs` is `t` without its sign
    have : ∃ sg, OptSign sg ∧ t = sg ++ rs := by
      cases t with
      | nil => exact ⟨[], .none, rfl⟩
      | cons sg t'' =>
        by_cases hp : sg = '+'
        · exact ⟨['+'], .plus, by subst hp; rfl⟩
        by_cases hm : sg = '-'
        · exact ⟨['-'], .minus, by subst hm; rfl⟩
        · exact ⟨[], .none, by simp [rs, hp, hm]⟩
    obtain ⟨sg, hs, ht⟩ := this
    exact ⟨c :: (sg ++ ds), .exp (by simpa using hc) hs h1, by rw [ht, hrs, h2]; simp⟩
  case case5 c t _ => intro h; cases h; exact ⟨[], .none, rfl⟩
  all_goals intro h; cases h

theorem numFrac_append {f e rest : List Char} (hf : OptFrac f) (he : OptExp e) (hr : NumFollow rest) :
    numFrac (f ++ (e ++ rest)) = some (e ++ rest) := by
  cases hf with
  | none =>
    cases h : e ++ rest with
    | nil => rfl
    | cons c r =>
      have := (optExp_follow he hr).2 c r h
      simp [numFrac, this]
  | @frac ds hd =>
    obtain ⟨d, t, rfl, hd1, ht⟩ := digits1_head hd
    simp [numFrac, hd1, dropDigits_append ht (optExp_follow he hr).1]

theorem frac_exp_noDigit {f e rest : List Char} (hf : OptFrac f) (he : OptExp e) (hr : NumFollow rest) :
    NoDigitHead (f ++ (e ++ rest)) := by
  cases hf with
  | none => exact (optExp_follow he hr).1
  | frac hd => exact noDigitHead_cons (by decide)

theorem numFrac_sound {s r : List Char} (h : numFrac s = some r) : ∃ f, OptFrac f ∧ s = f ++ r := by
  revert h
  fun_cases numFrac s
  case case1 => intro h; cases h; exact ⟨[], .none, rfl⟩
  case case3 d t hd =>
    intro h; cases h
    obtain ⟨ds, h1, h2⟩ := digits1_of (t := t) hd
    exact ⟨'.' :: ds, .frac h1, congrArg _ h2⟩
  case case5 c t _ => intro h; cases h; exact ⟨[], .none, rfl⟩
  all_goals intro h; cases h

theorem digit_of_digit19 {c : Char} (h : Digit19 c) : Digit c :=
  ⟨Char.le_trans (by decide) h.1, h.2⟩

theorem intPart_head {i : List Char} (hi : IntPart i) : ∃ c r, i = c :: r ∧ Digit c := by
  cases hi with
  | zero => exact ⟨'0', [], rfl, (isDigit_iff _).1 (by decide)⟩
  | @nonzero c ds hc hd => exact ⟨c, ds, rfl, digit_of_digit19 hc⟩

theorem numInt_of_intPart {i rest : List Char} (hi : IntPart i) (hr : NoDigitHead rest) :
    numInt (i ++ rest) = some rest := by
  cases hi with
  | zero => simp [numInt]
  | @nonzero c ds hc hd =>
    have h19 : isDigit19 c = true := (isDigit19_iff c).2 hc
    have hne : c ≠ '0' := by intro e; subst e; revert h19; decide
    simp [numInt, hne, h19, dropDigits_append hd hr]

theorem numInt_sound {s r : List Char} (h : numInt s = some r) : ∃ i, IntPart i ∧ s = i ++ r := by
  revert h
  fun_cases numInt s
  case case2 t => intro h; cases h; exact ⟨['0'], .zero, rfl⟩
  case case3 c t _ h19 =>
    intro h; cases h
    obtain ⟨ds, hd, hs⟩ := dropDigits_split t
    exact ⟨c :: ds, .nonzero ((isDigit19_iff c).1 h19) hd, congrArg _ hs⟩
  all_goals intro h; cases h

theorem digit_ne_minus {c : Char} (hc : Digit c) : c ≠ '-' := by
  intro e; subst e; have := (isDigit_iff _).2 hc; revert this; decide

/-- the optional minus sign that `is_json_number` drops before it scans -/
def stripMinus : List Char → List Char
  | c :: r => if c = '-' then r else c :: r
  | [] => []

theorem stripMinus_append {m : List Char} {c : Char} (x : List Char) (hm : OptMinus m) (hc : Digit c) :
    stripMinus (m ++ c :: x) = c :: x := by
  cases hm with
  | none => exact if_neg (digit_ne_minus hc)
  | minus => rfl

theorem stripMinus_split (s : List Char) : ∃ m, OptMinus m ∧ s = m ++ stripMinus s := by
  cases s with
  | nil => exact ⟨[], .none, rfl⟩
  | cons c t =>
    by_cases hc : c = '-'
    · exact ⟨['-'], .minus, by subst hc; rfl⟩
    · exact ⟨[], .none, by simp [stripMinus, hc]⟩

/-- `is_json_number` up to its last step: sign, integer part, fraction and exponent are scanned one
after the other; the result is what follows them. The token is a number when nothing follows. -/
def numScan (s : List Char) : Option (List Char) :=
  (numInt (stripMinus s)).bind fun a => (numFrac a).bind numExp

theorem isNumberLexeme_iff_numScan (s : List Char) : isNumberLexeme s = true ↔ numScan s = some [] := by
  unfold isNumberLexeme numScan
  -- the sign-stripping `match` written out in `isNumberLexeme` is `stripMinus`
  change (match numInt (stripMinus s) with | none => _ | some a => _) = _ ↔ _
  cases numInt (stripMinus s) with
  | none => simp
  | some a =>
    dsimp only [Option.bind_some]
    cases numFrac a with
    | none => simp
    | some b =>
      dsimp only [Option.bind_some]
      cases numExp b <;> simp

theorem numScan_append {l rest : List Char} (hl : NumberLexeme l) (hr : NumFollow rest) :
    numScan (l ++ rest) = some rest := by
  cases hl with
  | @mk m i f e hm hi hf he =>
    obtain ⟨c, r, rfl, hc⟩ := intPart_head hi
    have hs : stripMinus ((m ++ (c :: r ++ (f ++ e))) ++ rest) = (c :: r) ++ (f ++ (e ++ rest)) := by
      simp only [List.append_assoc, List.cons_append]
      exact stripMinus_append _ hm hc
    rw [numScan, hs, numInt_of_intPart hi (frac_exp_noDigit hf he hr)]
    simp only [Option.bind_some, numFrac_append hf he hr, numExp_append he hr]

theorem numScan_sound {s r : List Char} (h : numScan s = some r) : ∃ l, NumberLexeme l ∧ s = l ++ r := by
  obtain ⟨a, h1, h⟩ := Option.bind_eq_some_iff.1 h
  obtain ⟨b, h2, h3⟩ := Option.bind_eq_some_iff.1 h
  obtain ⟨i, hi, e1⟩ := numInt_sound h1
  obtain ⟨f, hf, e2⟩ := numFrac_sound h2
  obtain ⟨e, he, e3⟩ := numExp_sound h3
  obtain ⟨m, hm, hs⟩ := stripMinus_split s
  refine ⟨m ++ (i ++ (f ++ e)), .mk hm hi hf he, ?_⟩
  rw [hs, e1, e2, e3]
  simp only [List.append_assoc]

theorem isNumberLexeme_iff (l : List Char) : isNumberLexeme l = true ↔ NumberLexeme l := by
  rw [isNumberLexeme_iff_numScan]
  constructor
  · intro h
    obtain ⟨l', hl, e⟩ := numScan_sound h
    rwa [e, List.append_nil]
  · intro h
    have := numScan_append h numFollow_nil
    rwa [List.append_nil] at this

end Humphrey.Json
