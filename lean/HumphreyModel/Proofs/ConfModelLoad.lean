import HumphreyModel.Proofs.ConfModelMap

/-!
The typed getters of `Config::from_tree` on a key whose binding is known.
-/
namespace Humphrey.Conf

theorem cfgrt_parseLogLevel_text (l : LogLevel) : parseLogLevel l.text = some l := by
  unfold parseLogLevel
  repeat rw [String.toList_ofList]
  cases l <;> rfl

theorem cfgrt_parseBool_text (b : Bool) : parseBool (boolText b) = some b := by
  unfold parseBool
  repeat rw [String.toList_ofList]
  cases b <;> rfl

section getters
variable {α ε : Type} {m : Map} {key : Str} {o : Option α} {node : α → Node}

/-- `get_optional_parsed` on a key that is absent or bound to a node whose text parses back. -/
theorem cfgrt_gop (hg : Map.get m key = o.map node) (parse : Str → Option α)
    (hp : ∀ a, o = some a → (node a).scalar.bind parse = some a) (d : α) (e : ε) :
    getOptionalParsed m key d parse e = .ok (o.getD d) := by
  unfold getOptionalParsed
  rw [hg]
  cases o with
  | none => rfl
  | some a => simp only [Option.map_some, hp a rfl, Option.getD_some]

theorem cfgrt_getOwned (hg : Map.get m key = o.map node) {text : α → Str}
    (ht : ∀ a, (node a).getString = some (text a)) : getOwned m key = o.map text := by
  unfold getOwned
  rw [hg]
  cases o with
  | none => rfl
  | some a => exact ht a

end getters

/-- The match of `from_tree` on the blacklist mode. -/
theorem cfgrt_mode {m : Map} {o : Option BlacklistMode}
    (hg : getOwned m (k "server.blacklist.mode") = o.map BlacklistMode.text) :
    (if getOptional m (k "server.blacklist.mode") (k "block") = k "block" then some BlacklistMode.block
     else if getOptional m (k "server.blacklist.mode") (k "block") = k "forbidden"
       then some BlacklistMode.forbidden else none) = some (o.getD .block) := by
  have e1 : k "block" = BlacklistMode.text .block := String.toList_ofList
  have e2 : k "forbidden" = BlacklistMode.text .forbidden := String.toList_ofList
  rw [getOptional, hg, e1, e2]
  cases o with
  | none => rfl
  | some md => cases md <;> rfl

end Humphrey.Conf
