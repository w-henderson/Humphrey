import HumphreyModel.Model.Glob
import HumphreyModel.Spec.Glob

/-!
The glob relation of `Spec/Glob.lean`, for C05: inversion by the head of pattern and text; a `*` as the choice of a suffix
of the text (`glob_star_suffix`, and `glob_star` / `glob_star_drop` for the same with an index); literal runs
(`glob_lits_append`) and what the matcher's correctness rests on, `glob_star_lits`: a `*` followed by a literal run that
is matched somewhere inside a text starting with that run matches the rest of the pattern inside the rest of the text.
-/
namespace Humphrey.Glob

theorem glob_nil_left {t : List Char} : Glob [] t ↔ t = [] := by
  constructor
  · intro h; cases h; rfl
  · rintro rfl; exact .nil

theorem glob_nil_right {p : List Char} : Glob p [] ↔ allStars p = true := by
  induction p with
  | nil => simp [allStars, Glob.nil]
  | cons c p ih =>
    constructor
    · intro h
      cases h with
      | starSkip h => simp [allStars, ih.mp h]
    · intro h
      simp [allStars] at h
      obtain ⟨rfl, h2⟩ := h
      exact .starSkip (ih.mpr h2)

theorem glob_lit_cons {c d : Char} {p t : List Char} (hc : c ≠ '*') :
    Glob (c :: p) (d :: t) ↔ c = d ∧ Glob p t := by
  constructor
  · intro h
    cases h with
    | lit _ h => exact ⟨rfl, h⟩
    | starSkip _ => exact absurd rfl hc
    | starEat _ => exact absurd rfl hc
  · rintro ⟨rfl, h⟩; exact .lit hc h

theorem glob_lit_nil {c : Char} {p : List Char} (hc : c ≠ '*') : ¬ Glob (c :: p) [] := by
  intro h; cases h; exact hc rfl

/-- The two rules for `*`, read backwards: the `*` stands for nothing, or for the first character
and whatever a `*` can stand for after it. -/
theorem glob_star_unfold {p x : List Char} :
    Glob ('*' :: p) x ↔ Glob p x ∨ Glob ('*' :: p) x.tail := by
  constructor
  · intro h
    cases h with
    | lit hc _ => exact absurd rfl hc
    | starSkip h => exact .inl h
    | starEat h => exact .inr h
  · rintro (h | h)
    · exact .starSkip h
    · cases x with
      | nil => exact h
      | cons c x => exact .starEat h

theorem glob_star_of_suffix {p y t : List Char} (hy : y <:+ t) (h : Glob ('*' :: p) y) :
    Glob ('*' :: p) t := by
  obtain ⟨pre, rfl⟩ := hy
  induction pre with
  | nil => exact h
  | cons c pre ih => exact .starEat ih

theorem glob_star_suffix {p t : List Char} : Glob ('*' :: p) t ↔ ∃ y, y <:+ t ∧ Glob p y := by
  constructor
  · intro h
    induction t with
    | nil =>
      cases h with
      | starSkip h => exact ⟨[], List.suffix_refl _, h⟩
    | cons c t ih =>
      rcases glob_star_unfold.mp h with h | h
      · exact ⟨_, List.suffix_refl _, h⟩
      · obtain ⟨y, hy, hg⟩ := ih h
        exact ⟨y, hy.trans (List.suffix_cons c t), hg⟩
  · rintro ⟨y, hy, h⟩; exact glob_star_of_suffix hy (.starSkip h)

theorem glob_star_drop {p t : List Char} (k : Nat) (h : Glob p (t.drop k)) :
    Glob ('*' :: p) t :=
  glob_star_suffix.mpr ⟨_, List.drop_suffix k t, h⟩

theorem glob_star {p t : List Char} :
    Glob ('*' :: p) t ↔ ∃ k, k ≤ t.length ∧ Glob p (t.drop k) := by
  rw [glob_star_suffix]
  constructor
  · rintro ⟨y, hy, h⟩
    exact ⟨t.length - y.length, Nat.sub_le _ _, List.suffix_iff_eq_drop.mp hy ▸ h⟩
  · rintro ⟨k, _, h⟩; exact ⟨_, List.drop_suffix k t, h⟩

theorem glob_lits_append {l p x : List Char} (hl : ∀ c ∈ l, c ≠ '*') :
    Glob (l ++ p) x ↔ ∃ y, x = l ++ y ∧ Glob p y := by
  induction l generalizing x with
  | nil => simp
  | cons c l ih =>
    have hc : c ≠ '*' := hl c (by simp)
    have hl' : ∀ d ∈ l, d ≠ '*' := fun d hd => hl d (by simp [hd])
    cases x with
    | nil =>
      constructor
      · intro h; exact absurd h (glob_lit_nil hc)
      · rintro ⟨y, hy, _⟩; simp at hy
    | cons d x =>
      simp only [List.cons_append]
      rw [glob_lit_cons hc, ih hl']
      constructor
      · rintro ⟨rfl, y, rfl, hy⟩; exact ⟨y, rfl, hy⟩
      · rintro ⟨y, hy, hg⟩
        simp at hy
        exact ⟨hy.1.symm, y, hy.2, hg⟩

/-- A `*` followed by the literal run `l`, matched somewhere inside a text `l ++ t`: the pattern
after the run is matched inside `t`. With `p` starting with a `*` this is why an older bookmark may
be forgotten (every later placement of the older `*` is a placement of the new one); with `t`
empty it says that nothing is left to try. -/
theorem glob_star_lits {l p x t : List Char} (hl : ∀ c ∈ l, c ≠ '*') (hx : x <:+ l ++ t)
    (h : Glob ('*' :: (l ++ p)) x) : ∃ y, y <:+ t ∧ Glob p y := by
  obtain ⟨z, hz, hg⟩ := glob_star_suffix.mp h
  obtain ⟨y, rfl, hy⟩ := (glob_lits_append hl).mp hg
  have hlen := (hz.trans hx).length_le
  simp only [List.length_append] at hlen
  exact ⟨y, List.suffix_of_suffix_length_le ((List.suffix_append l y).trans (hz.trans hx))
    (List.suffix_append l t) (by omega), hy⟩

/-! ### Length of a match (C06: a URI that matches a route pattern is at least as long as the pattern's literal prefix) -/

/-- Number of non-`*` characters of a pattern: a lower bound for the length of any match. -/
def lits : List Char → Nat
  | [] => 0
  | c :: p => (if c = '*' then 0 else 1) + lits p

theorem lits_append (a b : List Char) : lits (a ++ b) = lits a + lits b := by
  induction a with
  | nil => rw [List.nil_append, lits, Nat.zero_add]
  | cons c a ih => rw [List.cons_append, lits, lits, ih, Nat.add_assoc]

theorem lits_of_noStar {l : List Char} (h : ∀ c ∈ l, c ≠ '*') : lits l = l.length := by
  induction l with
  | nil => rfl
  | cons c l ih =>
    rw [lits, if_neg (h c List.mem_cons_self), ih fun x hx => h x (List.mem_cons_of_mem _ hx),
      List.length_cons, Nat.add_comm]

theorem glob_length {p t : List Char} (h : Glob p t) : lits p ≤ t.length := by
  induction h with
  | nil => exact Nat.le_refl 0
  | lit hc _ ih => rw [lits, if_neg hc, List.length_cons]; omega
  | starSkip _ ih => rw [lits, if_pos rfl, Nat.zero_add]; exact ih
  | starEat _ ih => exact Nat.le_succ_of_le ih

/-- A text matched by a pattern has at least as many characters as the pattern's literal prefix:
the prefix consists of literals only, and `lits` bounds the length of a match from below. -/
theorem glob_prefix_le {p t : List Char} (h : Glob p t) :
    (p.takeWhile (· ≠ '*')).length ≤ t.length := by
  have hl := glob_length h
  rw [← List.takeWhile_append_dropWhile (p := (· ≠ '*')) (l := p), lits_append,
    lits_of_noStar fun c hc => by simpa using List.all_eq_true.mp List.all_takeWhile c hc] at hl
  omega

end Humphrey.Glob
