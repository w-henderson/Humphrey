import HumphreyModel.Model.Bytes
/-
UTF-8 validity and ASCII lower-casing. `utf8Valid` is a long case distinction on the leading byte; the
proofs go through it once, in `utf8Valid_induction`, which presents a valid string as a sequence of
ASCII bytes and multi-byte characters. Everything else about `utf8Valid` is derived from that.
-/
namespace Humphrey.Bytes
open Humphrey

theorem utf8Valid_cons_ascii {x : UInt8} (xs : Bytes) (hx : x < 128) :
    utf8Valid (x :: xs) = utf8Valid xs := by
  conv => lhs; unfold utf8Valid
  exact if_pos hx

theorem not_ascii_of_le {k b : UInt8} (hk : 128 ≤ k) (h : k ≤ b) : ¬ b < 128 :=
  UInt8.not_lt.mpr (UInt8.le_trans hk h)

theorem not_ascii_of_isCont {b : UInt8} (h : isCont b = true) : ¬ b < 128 := by
  simp only [isCont, Bool.and_eq_true, decide_eq_true_eq] at h
  exact UInt8.not_lt.mpr h.1

/-- Induction over a valid string, one character at a time. A multi-byte character `c` is known by
two facts: none of its bytes is ASCII, and `utf8Valid` steps over it whatever follows. -/
theorem utf8Valid_induction {P : Bytes → Prop} (nil : P [])
    (ascii : ∀ b r, b < 128 → utf8Valid r = true → P r → P (b :: r))
    (multi : ∀ c r, (∀ y ∈ c, ¬ y < 128) → (∀ t, utf8Valid (c ++ t) = utf8Valid t) →
      utf8Valid r = true → P r → P (c ++ r)) :
    ∀ {s : Bytes}, utf8Valid s = true → P s := by
  intro s h
  have c128 : (128 : UInt8) ≤ 128 := by decide
  have c144 : (128 : UInt8) ≤ 144 := by decide
  have c160 : (128 : UInt8) ≤ 160 := by decide
  fun_induction utf8Valid s
  case case1 => exact nil
  case case2 b0 rest hb ih => exact ascii _ _ hb h (ih h)
  case case3 b0 h1 h2 b1 r ih =>
    simp only [Bool.and_eq_true] at h
    refine multi [b0, b1] r ?_ (fun t => ?_) h.2 (ih h.2)
    · simp only [List.forall_mem_cons, List.not_mem_nil, false_imp_iff, implies_true, and_true]
      exact ⟨h1, not_ascii_of_isCont h.1⟩
    · show utf8Valid (b0 :: b1 :: t) = _
      conv => lhs; unfold utf8Valid
      refine ((if_neg h1).trans (if_pos h2)).trans ?_
      simp only [h, Bool.true_and]
  case case5 b1 b2 r h1 h2 ih =>
    simp only [Bool.and_eq_true, decide_eq_true_eq] at h
    refine multi [224, b1, b2] r ?_ (fun t => ?_) h.2 (ih h.2)
    · simp only [List.forall_mem_cons, List.not_mem_nil, false_imp_iff, implies_true, and_true]
      exact ⟨h1, not_ascii_of_le c160 h.1.1.1, not_ascii_of_isCont h.1.2⟩
    · show utf8Valid (224 :: b1 :: b2 :: t) = _
      conv => lhs; unfold utf8Valid
      refine ((if_neg h1).trans <| (if_neg h2).trans (if_pos rfl)).trans ?_
      simp only [h, decide_true, Bool.and_self, Bool.true_and]
  case case7 b0 h1 h2 h3 h4 b1 b2 r ih =>
    simp only [Bool.and_eq_true] at h
    refine multi [b0, b1, b2] r ?_ (fun t => ?_) h.2 (ih h.2)
    · simp only [List.forall_mem_cons, List.not_mem_nil, false_imp_iff, implies_true, and_true]
      exact ⟨h1, not_ascii_of_isCont h.1.1, not_ascii_of_isCont h.1.2⟩
    · show utf8Valid (b0 :: b1 :: b2 :: t) = _
      conv => lhs; unfold utf8Valid
      refine ((if_neg h1).trans <| (if_neg h2).trans <| (if_neg h3).trans (if_pos h4)).trans ?_
      simp only [h, Bool.and_self, Bool.true_and]
  case case9 b1 b2 r h1 h2 h3 h4 ih =>
    simp only [Bool.and_eq_true, decide_eq_true_eq] at h
    refine multi [237, b1, b2] r ?_ (fun t => ?_) h.2 (ih h.2)
    · simp only [List.forall_mem_cons, List.not_mem_nil, false_imp_iff, implies_true, and_true]
      exact ⟨h1, not_ascii_of_le c128 h.1.1.1, not_ascii_of_isCont h.1.2⟩
    · show utf8Valid (237 :: b1 :: b2 :: t) = _
      conv => lhs; unfold utf8Valid
      refine ((if_neg h1).trans <| (if_neg h2).trans <| (if_neg h3).trans <| (if_neg h4).trans
        (if_pos rfl)).trans ?_
      simp only [h, decide_true, Bool.and_self, Bool.true_and]
  case case11 b1 b2 b3 r h1 h2 h3 h4 h5 ih =>
    simp only [Bool.and_eq_true, decide_eq_true_eq] at h
    refine multi [240, b1, b2, b3] r ?_ (fun t => ?_) h.2 (ih h.2)
    · simp only [List.forall_mem_cons, List.not_mem_nil, false_imp_iff, implies_true, and_true]
      exact ⟨h1, not_ascii_of_le c144 h.1.1.1.1, not_ascii_of_isCont h.1.1.2, not_ascii_of_isCont h.1.2⟩
    · show utf8Valid (240 :: b1 :: b2 :: b3 :: t) = _
      conv => lhs; unfold utf8Valid
      refine ((if_neg h1).trans <| (if_neg h2).trans <| (if_neg h3).trans <| (if_neg h4).trans <|
        (if_neg h5).trans (if_pos rfl)).trans ?_
      simp only [h, decide_true, Bool.and_self, Bool.true_and]
  case case13 b0 h1 h2 h3 h4 h5 h6 h7 b1 b2 b3 r ih =>
    simp only [Bool.and_eq_true] at h
    refine multi [b0, b1, b2, b3] r ?_ (fun t => ?_) h.2 (ih h.2)
    · simp only [List.forall_mem_cons, List.not_mem_nil, false_imp_iff, implies_true, and_true]
      exact ⟨h1, not_ascii_of_isCont h.1.1.1, not_ascii_of_isCont h.1.1.2, not_ascii_of_isCont h.1.2⟩
    · show utf8Valid (b0 :: b1 :: b2 :: b3 :: t) = _
      conv => lhs; unfold utf8Valid
      refine ((if_neg h1).trans <| (if_neg h2).trans <| (if_neg h3).trans <| (if_neg h4).trans <|
        (if_neg h5).trans <| (if_neg h6).trans (if_pos h7)).trans ?_
      simp only [h, Bool.and_self, Bool.true_and]
  case case15 b1 b2 b3 r h1 h2 h3 h4 h5 h6 h7 ih =>
    simp only [Bool.and_eq_true, decide_eq_true_eq] at h
    refine multi [244, b1, b2, b3] r ?_ (fun t => ?_) h.2 (ih h.2)
    · simp only [List.forall_mem_cons, List.not_mem_nil, false_imp_iff, implies_true, and_true]
      exact ⟨h1, not_ascii_of_le c128 h.1.1.1.1, not_ascii_of_isCont h.1.1.2, not_ascii_of_isCont h.1.2⟩
    · show utf8Valid (244 :: b1 :: b2 :: b3 :: t) = _
      conv => lhs; unfold utf8Valid
      refine ((if_neg h1).trans <| (if_neg h2).trans <| (if_neg h3).trans <| (if_neg h4).trans <|
        (if_neg h5).trans <| (if_neg h6).trans <| (if_neg h7).trans (if_pos rfl)).trans ?_
      simp only [h, decide_true, Bool.and_self, Bool.true_and]
  all_goals cases h

theorem utf8Valid_append {a : Bytes} (b : Bytes) (h : utf8Valid a = true) :
    utf8Valid (a ++ b) = utf8Valid b := by
  refine utf8Valid_induction (P := fun a => utf8Valid (a ++ b) = utf8Valid b) rfl ?_ ?_ h
  · intro x r hx _ ih
    rw [List.cons_append, utf8Valid_cons_ascii _ hx, ih]
  · intro c r _ hc _ ih
    rw [List.append_assoc, hc, ih]

theorem utf8Valid_append_true {a b : Bytes} (ha : utf8Valid a = true) (hb : utf8Valid b = true) :
    utf8Valid (a ++ b) = true := by rw [utf8Valid_append b ha, hb]

theorem utf8Valid_ascii {s : Bytes} (h : ∀ b ∈ s, b < 128) : utf8Valid s = true := by
  induction s with
  | nil => rfl
  | cons x xs ih =>
    rw [utf8Valid_cons_ascii _ (h x List.mem_cons_self)]
    exact ih fun b hb => h b (List.mem_cons_of_mem _ hb)

theorem utf8Valid_split_ascii {a : Bytes} (x : UInt8) (b : Bytes) (hx : x < 128)
    (h : utf8Valid (a ++ x :: b) = true) : utf8Valid a = true ∧ utf8Valid b = true := by
  refine utf8Valid_induction (P := fun s => ∀ a, s = a ++ x :: b → utf8Valid a = true ∧ utf8Valid b = true)
    ?_ ?_ ?_ h a rfl
  · intro a e
    cases a <;> cases e
  · intro y r hy hr ih a e
    cases a with
    | nil => cases e; exact ⟨rfl, hr⟩
    | cons z a' =>
      cases e
      rw [utf8Valid_cons_ascii _ hy]
      exact ih a' rfl
  · intro c r hc hs hr ih a e
    -- `x` is ASCII, so it is not a byte of the character `c`: `c` ends inside `a`
    rcases List.append_eq_append_iff.mp e with ⟨a', rfl, rfl⟩ | ⟨c', rfl, e'⟩
    · rw [hs]
      exact ih a' rfl
    · cases c' with
      | nil => exact ⟨show utf8Valid a = utf8Valid [] by simpa using hs [], (ih [] e'.symm).2⟩
      | cons z c'' =>
        cases e'
        exact absurd hx (hc x (by simp))

theorem toNat_lowerByte (b : UInt8) :
    (lowerByte b).toNat = if 65 ≤ b.toNat ∧ b.toNat ≤ 90 then b.toNat + 32 else b.toNat := by
  unfold lowerByte
  simp only [UInt8.le_iff_toNat_le, UInt8.toNat_ofNat, Nat.reducePow, Nat.reduceMod]
  split
  · simp only [UInt8.toNat_add, UInt8.toNat_ofNat, Nat.reducePow, Nat.reduceMod]; omega
  · rfl

theorem lowerByte_of_not_lt {b : UInt8} (h : ¬ b < 128) : lowerByte b = b := by
  simp only [← UInt8.toNat_inj, UInt8.lt_iff_toNat_lt, toNat_lowerByte, UInt8.toNat_ofNat, Nat.reducePow, Nat.reduceMod] at *
  split <;> omega

theorem lowerByte_lt {b : UInt8} (h : b < 128) : lowerByte b < 128 := by
  simp only [UInt8.lt_iff_toNat_lt, toNat_lowerByte, UInt8.toNat_ofNat, Nat.reducePow, Nat.reduceMod] at *
  split <;> omega

theorem lowerByte_idem (b : UInt8) : lowerByte (lowerByte b) = lowerByte b := by
  simp only [← UInt8.toNat_inj, toNat_lowerByte]
  by_cases h : 65 ≤ b.toNat ∧ b.toNat ≤ 90
  · rw [if_pos h]; split <;> omega
  · rw [if_neg h, if_neg h]

/-- Lower-casing never produces a byte below `A` that was not there. -/
theorem lowerByte_eq_low {b c : UInt8} (hc : c < 65) (h : lowerByte b = c) : b = c := by
  simp only [← UInt8.toNat_inj, UInt8.lt_iff_toNat_lt, toNat_lowerByte, UInt8.toNat_ofNat, Nat.reducePow, Nat.reduceMod] at *
  split at h <;> omega

theorem asciiLower_idem (s : Bytes) : asciiLower (asciiLower s) = asciiLower s := by
  simp [asciiLower, lowerByte_idem]

theorem not_mem_asciiLower {s : Bytes} {c : UInt8} (hc : c < 65) (h : c ∉ s) : c ∉ asciiLower s := by
  intro hm
  obtain ⟨b, hb, e⟩ := List.mem_map.mp hm
  exact h (lowerByte_eq_low hc e ▸ hb)

theorem utf8Valid_asciiLower {s : Bytes} (h : utf8Valid s = true) : utf8Valid (asciiLower s) = true := by
  refine utf8Valid_induction (P := fun s => utf8Valid (asciiLower s) = true) rfl ?_ ?_ h
  · intro x r hx _ ih
    exact (utf8Valid_cons_ascii _ (lowerByte_lt hx)).trans ih
  · intro c r hc hs _ ih
    have e : List.map lowerByte c = c :=
      (List.map_congr_left fun y hy => lowerByte_of_not_lt (hc y hy)).trans (List.map_id _)
    show utf8Valid (List.map lowerByte (c ++ r)) = true
    rw [List.map_append, e, hs]
    exact ih

end Humphrey.Bytes
