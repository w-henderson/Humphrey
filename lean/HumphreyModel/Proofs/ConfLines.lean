import HumphreyModel.Proofs.ConfRound

/-! Whole files: the `server {` search, the root section, and `str::lines` on joined lines. -/
namespace Humphrey.Conf

theorem findServer_fillers (fl : List (Str × Option Str)) (hf : ∀ f ∈ fl, ∀ x ∈ f.1, isBlank x = true)
    (rest : List Str) (ln : Nat) :
    findServer (fl.map fillerLine ++ rest) ln = findServer rest (ln + fl.length) := by
  induction fl generalizing ln with
  | nil => simp
  | cons f fl ih =>
    have h1 : cleanUp (fillerLine f) ≠ serverLine := by
      rw [cleanUp_filler (hf f (by simp)), serverLine_chars]; decide
    simp only [List.map_cons, List.cons_append, List.length_cons, findServer, h1, if_false]
    rw [ih (fun g hg => hf g (by simp [hg]))]
    congr 1; omega

theorem contentOk_server : ContentOk serverLine := by
  rw [serverLine_chars]
  exact ⟨⟨⟨'s', rfl, by decide⟩, ⟨'{', rfl, by decide⟩⟩, fun c hc => by revert c; decide⟩

theorem findServer_render {d : Deco} (hd : d.ok) (rest : List Str) :
    findServer (mkLines d serverLine ++ rest) 0 = some (rest, d.pre.length + 1) := by
  rw [mkLines_eq, List.append_assoc, findServer_fillers d.pre (fun f hf => (hd.1 f hf).1), List.singleton_append,
    findServer, if_pos (cleanUp_decoLine hd contentOk_server.noHash contentOk_server.tight), Nat.zero_add]

/-- What `parse_conf` makes of the result of the root `parse_section`. -/
def finishServer : Res ConfError (List Node) → Res ConfError Node
  | .ok cs => .ok (.section "server".toList cs)
  | .err e => .err e
  | .panic => .panic

/-- After the `server {` line the parser is in its loop, at the root. -/
theorem parseConfLines_server (fs : FS) (file : Str) {d : Deco} (hd : d.ok) (rest : List Str) :
    parseConfLines fs (mkLines d serverLine ++ rest) file =
      finishServer (goLines (parseFile fs (maxDepth + 2)) file 0 rest (d.pre.length + 1) [] []) := by
  unfold parseConfLines
  rw [findServer_render hd]
  rfl

theorem renderLines_eq (lay : Layout) (cs : List Node) :
    renderLines lay cs =
      mkLines (lay.line []) serverLine ++ renderNodes lay [] 0 cs ++ mkLines (lay.close []) ['}'] := rfl

def lineClean (l : Str) : Prop := (∀ c ∈ l, c ≠ '\n') ∧ l.getLast? ≠ some '\r'

theorem splitLinesAux_run (l rest cur : Str) (h : ∀ c ∈ l, c ≠ '\n') :
    splitLinesAux (l ++ rest) cur = splitLinesAux rest (l.reverse ++ cur) := by
  induction l generalizing cur with
  | nil => simp
  | cons c l ih =>
    have hc : c ≠ '\n' := h c (by simp)
    simp only [List.cons_append, splitLinesAux, hc, if_false]
    rw [ih _ (fun x hx => h x (by simp [hx]))]
    simp

theorem stripCr_clean {l : Str} (h : l.getLast? ≠ some '\r') : stripCr l = l := by
  simp [stripCr, stripSuffixChar_none h]

theorem joinLines_snoc (ls : List Str) (hne : ls ≠ []) (x : Str) :
    joinLines (ls ++ [x]) = joinLines ls ++ '\n' :: x := by
  induction ls with
  | nil => exact absurd rfl hne
  | cons l rest ih =>
    cases rest with
    | nil => simp [joinLines]
    | cons r rest =>
      have := ih (by simp)
      simp only [List.cons_append] at this
      simp [joinLines, this]

/-- `lines()` of lines joined by `\n` gives the lines back (no line contains `\n` or ends in
`\r`, and the last one is not empty). -/
theorem splitLines_joinLines (ls : List Str) (hne : ls ≠ []) (hc : ∀ l ∈ ls, lineClean l)
    (hlast : ls.getLast? ≠ some []) : splitLines (joinLines ls) = ls := by
  unfold splitLines
  induction ls with
  | nil => exact absurd rfl hne
  | cons l rest ih =>
    cases rest with
    | nil =>
      have hl : l ≠ [] := by intro e; subst e; simp at hlast
      have := splitLinesAux_run l [] [] (hc l (by simp)).1
      simp only [List.append_nil] at this
      simp only [joinLines, this, splitLinesAux]
      cases l with
      | nil => exact absurd rfl hl
      | cons a l => simp
    | cons r rest =>
      have h1 := splitLinesAux_run l ('\n' :: joinLines (r :: rest)) [] (hc l (by simp)).1
      simp only [joinLines, h1, List.append_nil, splitLinesAux, if_true, List.reverse_reverse]
      rw [stripCr_clean (hc l (by simp)).2]
      rw [ih (by simp) (fun x hx => hc x (by simp [hx])) (by simpa using hlast)]

/-- A file that ends with the line of a closing brace is cut back into its lines: that line is not
empty, so `str::lines` keeps it. -/
theorem splitLines_closed {ls : List Str} (d : Deco) (hc : ∀ l ∈ ls ++ mkLines d ['}'], lineClean l) :
    splitLines (joinLines (ls ++ mkLines d ['}'])) = ls ++ mkLines d ['}'] := by
  have hlast : (ls ++ mkLines d ['}']).getLast? = some (decoLine d ['}']) := by
    rw [mkLines_eq, ← List.append_assoc, List.getLast?_concat]
  exact splitLines_joinLines _ (by intro e; rw [e] at hlast; cases hlast) hc (by rw [hlast]; simp [decoLine])

end Humphrey.Conf
