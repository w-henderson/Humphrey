/-! Bit strings, most significant bit first, as numbers. The bit-level specifications of Base64 and of SHA-1 read a
bit string by the same fold (`Base64.Spec.bitsToNat` and `Rfc3174.natOfBits` are each `bitsVal`, by `rfl`). A bit
string is determined by its length and the number it denotes (`bitsVal_inj`), so that regrouping octets into
sextets, sextets into octets or octets into words is an identity between numbers, which `omega` checks. -/
namespace Humphrey

def bitsVal (l : List Bool) : Nat := l.foldl (fun acc b => 2 * acc + b.toNat) 0

/-- The `k` low bits of `n`, most significant first. -/
def bits : Nat → Nat → List Bool
  | 0, _ => []
  | k + 1, n => n.testBit k :: bits k n

@[simp] theorem length_bits (k n : Nat) : (bits k n).length = k := by
  induction k with
  | zero => rfl
  | succ k ih => simp [bits, ih]

theorem foldl_bit (l : List Bool) (acc : Nat) :
    l.foldl (fun acc b => 2 * acc + b.toNat) acc = acc * 2 ^ l.length + bitsVal l := by
  induction l generalizing acc with
  | nil => simp [bitsVal]
  | cons b l ih =>
    rw [bitsVal, List.foldl_cons, List.foldl_cons, ih, ih (2 * 0 + b.toNat), List.length_cons,
      Nat.pow_succ, Nat.add_mul, Nat.add_mul, Nat.add_assoc]
    simp only [Nat.mul_zero, Nat.zero_mul, Nat.zero_add]
    rw [Nat.mul_comm 2 acc, Nat.mul_assoc, Nat.mul_comm 2]

@[simp] theorem bitsVal_append (l m : List Bool) :
    bitsVal (l ++ m) = bitsVal l * 2 ^ m.length + bitsVal m := by
  rw [bitsVal, List.foldl_append, foldl_bit]; rfl

theorem bitsVal_cons (b : Bool) (l : List Bool) :
    bitsVal (b :: l) = b.toNat * 2 ^ l.length + bitsVal l := by
  simpa [bitsVal] using bitsVal_append [b] l

theorem bitsVal_lt (l : List Bool) : bitsVal l < 2 ^ l.length := by
  induction l with
  | nil => simp [bitsVal]
  | cons b l ih =>
    rw [bitsVal_cons, List.length_cons, Nat.pow_succ]
    have : b.toNat * 2 ^ l.length ≤ 1 * 2 ^ l.length := Nat.mul_le_mul_right _ (Bool.toNat_le b)
    omega

@[simp] theorem bitsVal_bits (k n : Nat) : bitsVal (bits k n) = n % 2 ^ k := by
  induction k with
  | zero => simp [bits, bitsVal, Nat.mod_one]
  | succ k ih =>
    rw [bits, bitsVal_cons, ih, length_bits, Nat.toNat_testBit, Nat.mod_pow_succ, Nat.mul_comm,
      Nat.add_comm]

@[simp] theorem bitsVal_replicate_false (n : Nat) : bitsVal (List.replicate n false) = 0 := by
  induction n with
  | zero => rfl
  | succ n ih => rw [List.replicate_succ, bitsVal_cons, ih]; simp

/-- Bit strings of equal length that denote the same number are equal. (Where this is applied to
`bits` of open terms, give the lengths by `simp`: with `rfl` the kernel goes on to compare the bits.) -/
theorem bitsVal_inj : ∀ {l m : List Bool}, l.length = m.length → bitsVal l = bitsVal m → l = m
  | [], [], _, _ => rfl
  | b :: l, c :: m, hl, hv => by
    have hl' : l.length = m.length := by simpa using hl
    have h1 := bitsVal_lt l
    have h2 := bitsVal_lt m
    rw [bitsVal_cons, bitsVal_cons, hl'] at hv
    rw [hl'] at h1
    have : b = c ∧ bitsVal l = bitsVal m := by
      cases b <;> cases c <;> simp at hv ⊢ <;> omega
    rw [this.1, bitsVal_inj hl' this.2]

theorem or_eq_add {x y : Nat} (k : Nat) (hx : 2 ^ k ∣ x) (hy : y < 2 ^ k) : x ||| y = x + y := by
  obtain ⟨q, rfl⟩ := hx
  rw [Nat.mul_comm, ← Nat.shiftLeft_eq, Nat.shiftLeft_add_eq_or_of_lt hy]

end Humphrey
