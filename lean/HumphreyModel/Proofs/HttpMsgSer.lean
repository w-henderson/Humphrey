import HumphreyModel.Proofs.HttpMsgBytes
import HumphreyModel.Proofs.HttpReqRound
import HumphreyModel.Props.C07
/-
The serialiser model against the independent strict recogniser `Spec.parseMsg`: well-formedness
(`Response.WF`, exactly the exclusions of property C07), the shape of `serializeResponse r`, and
`parseMsg (serializeResponse r)`. The table facts come from `Props/C07.lean` (`status_roundtrip`,
`reason_phrase_registered`, `reason_phrase_clean`, `status_codes_three_digits`) and `Proofs/HttpReqRound.lean`
(`header_table_token`).
-/
namespace Humphrey.Http
open Humphrey Humphrey.Bytes

/-- A header name that can go on the wire: its serialised spelling is a non-empty token and
lower-cases back to the stored key. -/
structure HName.WF (n : HName) : Prop where
  ne : n.display ≠ []
  tchar : ∀ b ∈ n.display, Spec.isTchar b = true
  lower : asciiLower n.display = n.lower

structure Header.WF (h : Header) : Prop where
  name : h.name.WF
  value_nocrlf : ∀ b ∈ h.value, b ≠ 13 ∧ b ≠ 10
  /-- no leading SP / TAB (a recipient strips optional white space) -/
  value_noows : ∀ b t, h.value = b :: t → b ≠ 32 ∧ b ≠ 9

/-- Exactly the exclusions of the property: a non-empty version without SP/CR/LF, a status the code
knows, token header names, header values without CR/LF and without leading white space. -/
structure Response.WF (r : Response) : Prop where
  version_ne : r.version ≠ []
  version_clean : ∀ b ∈ r.version, b ≠ 32 ∧ b ≠ 13 ∧ b ≠ 10
  status : statusKnown r.status = true
  headers : ∀ h ∈ r.headers, h.WF

theorem statusLookup_mem {c back : Nat} {p : Bytes} {t : List (Nat × Nat × Bytes)}
    (h : statusLookup c t = some (back, p)) : (c, back, p) ∈ t := by
  induction t with
  | nil => cases h
  | cons row rest ih =>
    simp only [statusLookup] at h
    split at h
    · rename_i hk; cases h; simp [← hk]
    · exact List.mem_cons_of_mem _ (ih h)

theorem HName.wf_known (n : HName) (h : lookup n.lower Generated.headerTable ≠ none) : n.WF := by
  cases hl : lookup n.lower Generated.headerTable with
  | none => exact absurd hl h
  | some p =>
    obtain ⟨d, c⟩ := p
    obtain ⟨h1, h2, h3⟩ := header_table_token _ (lookup_mem hl)
    have hd : n.display = d := by simp [HName.display, hl]
    exact ⟨by rw [hd]; exact h1, by rw [hd]; exact h2, by rw [hd]; exact h3⟩

theorem HName.wf_of_lower (n : HName) (h1 : n.lower ≠ []) (h2 : ∀ b ∈ n.lower, Spec.isTchar b = true)
    (h3 : asciiLower n.lower = n.lower) : n.WF := by
  cases hl : lookup n.lower Generated.headerTable with
  | some p => exact HName.wf_known n (by simp [hl])
  | none =>
    have hd : n.display = n.lower := by simp [HName.display, hl]
    exact ⟨by rw [hd]; exact h1, by rw [hd]; exact h2, by rw [hd]; exact h3⟩

/-- What `HeaderType::from(name)` produces is well-formed whenever `name` is a non-empty token. -/
theorem HName.wf_ofName (s : Bytes) (h1 : s ≠ []) (h2 : ∀ b ∈ s, Spec.isTchar b = true) :
    (HName.ofName s).WF := by
  apply HName.wf_of_lower
  · cases s with
    | nil => exact absurd rfl h1
    | cons a as => simp [HName.ofName, asciiLower]
  · intro b hb
    simp only [HName.ofName, asciiLower, List.mem_map] at hb
    obtain ⟨a, ha, rfl⟩ := hb
    exact isTchar_lowerByte a (h2 a ha)
  · simp [HName.ofName, asciiLower_idem]

theorem statusKnown_facts (c : Nat) (h : statusKnown c = true) :
    statusCodeOut c = c ∧ 100 ≤ c ∧ c ≤ 599 ∧
    (Spec.phrasesFor c).contains (asciiLower (reasonPhrase c)) = true ∧
    ∀ b ∈ reasonPhrase c, b ≠ 13 ∧ b ≠ 10 ∧ b < 128 := by
  cases hl : statusLookup c Generated.statusTable with
  | none => simp [statusKnown, hl] at h
  | some p =>
    obtain ⟨back, ph⟩ := p
    have hm := statusLookup_mem hl
    have e1 : statusCodeOut c = back := by simp [statusCodeOut, hl]
    have e2 : reasonPhrase c = ph := by simp [reasonPhrase, hl]
    have t1 := status_roundtrip _ hm
    have t2 := status_codes_three_digits _ hm
    have t3 := reason_phrase_registered _ hm
    have t4 := reason_phrase_clean _ hm
    simp only at t1 t2 t3 t4
    rw [e1, e2]
    exact ⟨t1, t2.1, t2.2, t3, t4⟩

/-- One field line without its CRLF. -/
def headerLine (h : Header) : Bytes := h.name.display ++ 58 :: 32 :: h.value

def statusLine (r : Response) : Bytes :=
  r.version ++ 32 :: (natToBytes (statusCodeOut r.status) ++ 32 :: reasonPhrase r.status)

/-- The CRLF pad the serialiser appends after a non-empty body. -/
def bodyPart (r : Response) : Bytes := if r.body = [] then [] else r.body ++ [13, 10]

/-- Separators written in front of every item, and once more at the end, are separators behind every
item, after one in front. -/
theorem flatMap_shift {α : Type} (l : List α) (f : α → Bytes) (sep t : Bytes) :
    l.flatMap (fun x => sep ++ f x) ++ (sep ++ t) = sep ++ (l.flatMap (fun x => f x ++ sep) ++ t) := by
  induction l with
  | nil => rfl
  | cons x xs ih => simp only [List.flatMap_cons, List.append_assoc, ih]

theorem serialize_shape (r : Response) :
    serializeResponse r = statusLine r ++ 13 :: 10 ::
      (r.headers.sorted.flatMap (fun h => headerLine h ++ [13, 10]) ++ 13 :: 10 :: bodyPart r) := by
  unfold serializeResponse
  simp only [List.append_assoc]
  rw [flatMap_shift]
  simp [statusLine, headerLine, bodyPart, SP, crlf]

theorem length_le_flatMap (l : Headers) :
    l.length ≤ (l.flatMap (fun h => headerLine h ++ [13, 10])).length := by
  induction l with
  | nil => simp
  | cons x xs ih => simp only [List.flatMap_cons, List.length_append, List.length_cons]; omega

theorem isEmpty_eq_false {l : Bytes} (h : l ≠ []) : l.isEmpty = false := by
  cases l with
  | nil => exact absurd rfl h
  | cons _ _ => rfl

theorem any_crlf_eq_false {l : Bytes} (h : ∀ b ∈ l, b ≠ 13 ∧ b ≠ 10) :
    l.any (fun b => decide (b = 13 ∨ b = 10)) = false := by
  rw [List.any_eq_false]
  intro b hb
  simp [h b hb]

theorem headerLine_facts (h : Header) (hw : h.WF) :
    (∀ b ∈ headerLine h, b ≠ 13 ∧ b ≠ 10) ∧ (∀ b ∈ h.name.display, b ≠ 58) := by
  refine ⟨?_, fun b hb => (isTchar_facts b (hw.name.tchar b hb)).1⟩
  intro b hb
  simp only [headerLine, List.mem_append, List.mem_cons] at hb
  rcases hb with hb | rfl | rfl | hb
  · have := isTchar_facts b (hw.name.tchar b hb); exact ⟨this.2.1, this.2.2.1⟩
  · decide
  · decide
  · exact hw.value_nocrlf b hb

theorem dropOws_value (h : Header) (hw : h.WF) : Spec.dropOws (32 :: h.value) = h.value := by
  simp only [Spec.dropOws, true_or, if_true]
  cases hv : h.value with
  | nil => rfl
  | cons b t =>
    have := hw.value_noows b t hv
    simp [Spec.dropOws, this.1, this.2]

theorem parseHeaderSection_line (h : Header) (hw : h.WF) (t : Bytes) (fuel : Nat) (acc : List (Bytes × Bytes)) :
    Spec.parseHeaderSection (fuel + 1) (headerLine h ++ 13 :: 10 :: t) acc =
      Spec.parseHeaderSection fuel t ((asciiLower h.name.display, h.value) :: acc) := by
  obtain ⟨f1, f2⟩ := headerLine_facts h hw
  have hso : splitOnce 58 (headerLine h) = (h.name.display, some (32 :: h.value)) :=
    splitOnce_append_sep _ (fun hm => f2 _ hm rfl)
  have hall : h.name.display.all Spec.isTchar = true := List.all_eq_true.mpr hw.name.tchar
  have hany := any_crlf_eq_false (l := 32 :: h.value) (by
    intro b hb
    rcases List.mem_cons.mp hb with rfl | hb
    · decide
    · exact hw.value_nocrlf b hb)
  -- the line is not the blank line: `parseHeaderSection` matches on `[]` first
  obtain ⟨a, as, hl⟩ : ∃ a as, headerLine h = a :: as := by
    cases hd : h.name.display with
    | nil => exact absurd hd hw.name.ne
    | cons a as => exact ⟨a, as ++ 58 :: 32 :: h.value, by simp [headerLine, hd]⟩
  rw [Spec.parseHeaderSection, splitLine_append _ _ (fun b hb => (f1 b hb).1)]
  rw [hl] at hso ⊢
  simp only [hso, isEmpty_eq_false hw.name.ne, hall, hany, Bool.not_true, Bool.or_self,
    Bool.false_eq_true, if_false, dropOws_value h hw]

theorem parseHeaderSection_lines (hs : Headers) (hw : ∀ h ∈ hs, h.WF) (body : Bytes)
    (fuel : Nat) (hf : hs.length < fuel) (acc : List (Bytes × Bytes)) :
    Spec.parseHeaderSection fuel (hs.flatMap (fun h => headerLine h ++ [13, 10]) ++ 13 :: 10 :: body) acc =
      some (acc.reverse ++ hs.map (fun h => (asciiLower h.name.display, h.value)), body) := by
  induction hs generalizing fuel acc with
  | nil =>
    cases fuel with
    | zero => simp at hf
    | succ fuel => simp [Spec.parseHeaderSection, Spec.splitLine]
  | cons h hs ih =>
    cases fuel with
    | zero => simp at hf
    | succ fuel =>
      simp only [List.flatMap_cons, List.append_assoc, List.cons_append, List.nil_append]
      rw [parseHeaderSection_line h (hw h (by simp)),
        ih (fun x hx => hw x (by simp [hx])) fuel (by simpa using hf)]
      simp

theorem forall_mem_statusLine {P : UInt8 → Prop} (version phrase : Bytes) (code : Nat)
    (hv : ∀ b ∈ version, P b) (hp : ∀ b ∈ phrase, P b) (hsp : P 32) (hd : ∀ b, isDigit b = true → P b) :
    ∀ b ∈ version ++ 32 :: (natToBytes code ++ 32 :: phrase), P b := by
  intro b hb
  simp only [List.mem_append, List.mem_cons] at hb
  rcases hb with hb | rfl | hb | rfl | hb
  · exact hv b hb
  · exact hsp
  · exact hd b ((natToBytes_digits code).2.1 b hb)
  · exact hsp
  · exact hp b hb

theorem statusLine_facts (r : Response) (h : r.WF) :
    (∀ b ∈ statusLine r, b ≠ 13 ∧ b ≠ 10) ∧
    (natToBytes (statusCodeOut r.status)).length = 3 ∧
    (∀ b ∈ natToBytes (statusCodeOut r.status), isDigit b = true) ∧
    digitsValue (natToBytes (statusCodeOut r.status)) 0 = statusCodeOut r.status := by
  obtain ⟨e, h1, h2, _, h4⟩ := statusKnown_facts r.status h.status
  obtain ⟨_, n2, n3⟩ := natToBytes_digits (statusCodeOut r.status)
  refine ⟨?_, natToBytes_length_three _ (by omega) (by omega), n2, n3⟩
  exact forall_mem_statusLine _ _ _ (fun b hb => (h.version_clean b hb).2)
    (fun b hb => ⟨(h4 b hb).1, (h4 b hb).2.1⟩) (by decide)
    (fun b hb => ⟨(isDigit_facts b hb).2.2.1, (isDigit_facts b hb).2.2.2.1⟩)

/-- **The serialiser against the strict recogniser**: a well-formed response serialises to a
message the recogniser accepts, with exactly this version, code, phrase, fields (in sorted order,
names as they lower-case from the wire) and — because of the CRLF pad — this body. -/
theorem parseMsg_serialize (r : Response) (h : r.WF) :
    Spec.parseMsg (serializeResponse r) =
      some ⟨r.version, statusCodeOut r.status, reasonPhrase r.status,
        r.headers.sorted.map (fun h => (asciiLower h.name.display, h.value)),
        if r.body = [] then [] else r.body ++ [13, 10]⟩ := by
  obtain ⟨s1, s2, s3, s4⟩ := statusLine_facts r h
  obtain ⟨_, _, _, _, p4⟩ := statusKnown_facts r.status h.status
  have hws : ∀ x ∈ r.headers.sorted, x.WF := fun x hx => h.headers x (mem_sorted.mp hx)
  rw [serialize_shape, Spec.parseMsg, splitLine_append _ _ (fun b hb => (s1 b hb).1)]
  have e1 : splitOnce 32 (statusLine r) =
      (r.version, some (natToBytes (statusCodeOut r.status) ++ 32 :: reasonPhrase r.status)) :=
    splitOnce_append_sep _ (fun hm => (h.version_clean _ hm).1 rfl)
  have e2 : splitOnce 32 (natToBytes (statusCodeOut r.status) ++ 32 :: reasonPhrase r.status) =
      (natToBytes (statusCodeOut r.status), some (reasonPhrase r.status)) :=
    splitOnce_append_sep _ (fun hm => (isDigit_facts _ (s3 _ hm)).2.1 rfl)
  have v2 := any_crlf_eq_false (fun b hb => (h.version_clean b hb).2)
  have c2 : (natToBytes (statusCodeOut r.status)).all isDigit = true := List.all_eq_true.mpr s3
  have ph := any_crlf_eq_false (fun b hb => ⟨(p4 b hb).1, (p4 b hb).2.1⟩)
  simp only [e1, e2, isEmpty_eq_false h.version_ne, v2, s2, c2, ph, ne_eq, not_true_eq_false, decide_false,
    Bool.not_true, Bool.or_self, Bool.false_eq_true, if_false]
  rw [parseHeaderSection_lines _ hws _ _ (by
    have := length_le_flatMap r.headers.sorted
    simp only [List.length_append, List.length_cons]; omega)]
  simp [s4, bodyPart]

theorem HName.eq_mk_iff (a : HName) (n : Bytes) : a = ⟨n⟩ ↔ a.lower = n := by
  cases a; simp

theorem fields_filter (l : Headers) (n : Bytes) :
    ((l.map (fun h => (h.name.lower, h.value))).filter (fun p => p.1 = n)).map (·.2) = l.getAll ⟨n⟩ := by
  simp [Headers.getAll, List.filter_map, Function.comp_def, HName.eq_mk_iff]

theorem wire_fields_eq (hs : Headers) (hw : ∀ h ∈ hs, h.name.WF) :
    hs.sorted.map (fun h => (asciiLower h.name.display, h.value)) =
      hs.sorted.map (fun h => (h.name.lower, h.value)) := by
  apply List.map_congr_left
  intro h hh
  rw [(hw h (mem_sorted.mp hh)).lower]

theorem sameFields_sorted (hs : Headers) (hw : ∀ h ∈ hs, h.name.WF) :
    Spec.sameFields (hs.sorted.map (fun h => (asciiLower h.name.display, h.value)))
      (hs.map (fun h => (h.name.lower, h.value))) = true := by
  rw [wire_fields_eq hs hw]
  simp only [Spec.sameFields, List.length_map, length_sorted, beq_self_eq_true, Bool.true_and,
    List.all_eq_true]
  intro p _
  obtain ⟨n, v⟩ := p
  simp only
  rw [fields_filter, fields_filter, getAll_sorted]
  simp

theorem fields_find (l : Headers) (n : Bytes) :
    ((l.map (fun h => (h.name.lower, h.value))).find? (fun p => p.1 = n)).map (·.2) = l.get ⟨n⟩ := by
  simp [Headers.get, List.find?_map, Function.comp_def, HName.eq_mk_iff]

/-- `Spec.checkSerialization` on the serialiser's output: everything holds except, for a non-empty
body, the CRLF pad. -/
theorem checkSerialization_serialize (r : Response) (h : r.WF) :
    Spec.checkSerialization r.version r.status (r.headers.map fun h => (h.name.lower, h.value)) r.body
      (serializeResponse r) = if r.body = [] then none else some "crlf-after-body" := by
  obtain ⟨e, _, _, p3, _⟩ := statusKnown_facts r.status h.status
  have sf := sameFields_sorted r.headers (fun x hx => (h.headers x hx).name)
  rw [Spec.checkSerialization, parseMsg_serialize r h]
  simp only [ne_eq, not_true_eq_false, if_false, e, p3, sf, Bool.not_true, Bool.false_eq_true]
  by_cases hb : r.body = [] <;> simp [hb]

end Humphrey.Http
