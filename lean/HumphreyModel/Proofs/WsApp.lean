import HumphreyModel.Model.WsApp
import HumphreyModel.Spec.WsApp

/-!
The normal form of a run, for C12. An iteration whose polls are of distinct streams of the table (`Polled`,
which `InputsOk` gives) does not panic; its effects are, in this order, those of the polls (`pollEffects`), the
connect dispatches and the flush, and the table afterwards is `nextStreams`. The trace of a run is then the
effects of its executed iterations (`bodyEffects`), followed by `exit` when a shutdown signal was seen
(`run_trace`).
-/
namespace Humphrey.WsApp
open Humphrey.WsAppSpec

/-- How a poll ends: with the removal of a stream found closed, broken or timed out, else with a ping if one
is due. -/
def pollEnd (h : Handlers) (w : Bool) (p : Poll) : List Effect :=
  if closes p then onGone h p.addr else if w then [.ping p.addr] else []

def pollEffects (h : Handlers) (w : Bool) (p : Poll) : List Effect :=
  (msgs p.results).flatMap (onMessage h p.addr) ++ pollEnd h w p

/-- The table after the polls. -/
def kept (st : List Addr) (ps : List Poll) : List Addr :=
  st.filter fun a => !(ps.any fun p => p.addr == a && closes p)

/-- The table at the flush (and after the iteration). -/
def nextStreams (st : List Addr) (i : IterInput) : List Addr := admitAll (kept st i.polls) i.incoming

/-- The effects of an iteration that does not see the shutdown signal. -/
def iterEffects (h : Handlers) (st : List Addr) (i : IterInput) : List Effect :=
  i.polls.flatMap (pollEffects h i.willPing) ++ i.incoming.flatMap (onConnect h) ++
    flush (nextStreams st i) i.outgoing

def Polled (st : List Addr) (ps : List Poll) : Prop :=
  (ps.map (·.addr)).Nodup ∧ ∀ p ∈ ps, p.addr ∈ st

theorem drain_eq (h : Handlers) (a : Addr) (rs : List Recv) :
    drain h a rs = ((msgs rs).flatMap (onMessage h a) ++ (if endsErr rs then onGone h a else []),
                    endsErr rs) := by
  induction rs with
  | nil => simp [drain, msgs, endsErr]
  | cons r rs ih =>
    cases r with
    | msg m => simp only [drain, msgs, endsErr, ih, List.flatMap_cons, List.append_assoc]; rfl
    | err => simp [drain, msgs, endsErr]
    | none => simp [drain, msgs, endsErr]

theorem pollOne_eq (h : Handlers) (w : Bool) (st : List Addr) (p : Poll) :
    pollOne h w st p = (if closes p then remove st p.addr else st, pollEffects h w p) := by
  unfold pollOne pollEffects pollEnd closes
  rw [drain_eq]
  cases h1 : endsErr p.results <;> cases h2 : p.timedOut <;> cases w <;> simp

theorem kept_cons (st : List Addr) (p : Poll) (ps : List Poll) :
    kept st (p :: ps) = kept (if closes p then remove st p.addr else st) ps := by
  unfold kept
  cases hc : closes p
  · simp [hc]
  · simp only [hc, if_true, remove, List.filter_filter, List.any_cons, Bool.and_true]
    apply List.filter_congr
    intro a _
    rw [Bool.not_or, Bool.and_comm, BEq.comm (a := p.addr)]
    rfl

theorem pollAll_eq (h : Handlers) (w : Bool) : ∀ (ps : List Poll) (st : List Addr), Polled st ps →
    pollAll h w st ps = (some (kept st ps), ps.flatMap (pollEffects h w))
  | [], st, _ => by rw [pollAll, kept, List.filter_eq_self.2 (by simp)]; rfl
  | p :: ps, st, ⟨hnd, hmem⟩ => by
    rw [List.map_cons, List.nodup_cons] at hnd
    have hrest : Polled (if closes p then remove st p.addr else st) ps := by
      refine ⟨hnd.2, fun q hq => ?_⟩
      have hq' : q.addr ∈ st := hmem q (List.mem_cons_of_mem _ hq)
      have hne : q.addr ≠ p.addr := fun e => hnd.1 (e ▸ List.mem_map_of_mem hq)
      split
      · simp [remove, hq', hne]
      · exact hq'
    rw [pollAll, if_pos (hmem p List.mem_cons_self), pollOne_eq]
    simp only [pollAll_eq h w ps _ hrest, kept_cons, List.flatMap_cons]

theorem mem_insert {st : List Addr} {a b : Addr} : b ∈ insert st a ↔ b ∈ st ∨ b = a := by
  unfold insert
  split
  · exact ⟨Or.inl, fun h => h.elim id (· ▸ ‹a ∈ st›)⟩
  · simp

theorem nodup_insert {st : List Addr} {a : Addr} (h : st.Nodup) : (insert st a).Nodup := by
  unfold insert
  split
  · exact h
  · rename_i hn
    rw [List.nodup_append]
    exact ⟨h, by simp, fun x hx y hy e => hn (by simp at hy; rwa [← hy, ← e])⟩

theorem mem_admitAll : ∀ (inc st : List Addr) (b : Addr), b ∈ admitAll st inc ↔ b ∈ st ∨ b ∈ inc
  | [], st, b => by simp [admitAll]
  | a :: inc, st, b => by
    have := mem_admitAll inc (insert st a) b
    rw [admitAll] at this ⊢
    rw [List.foldl_cons, this, mem_insert, List.mem_cons, or_assoc]

theorem nodup_admitAll : ∀ (inc st : List Addr), st.Nodup → (admitAll st inc).Nodup
  | [], _, h => h
  | _ :: inc, _, h => nodup_admitAll inc _ (nodup_insert h)

theorem mem_nextStreams {st : List Addr} {i : IterInput} {a : Addr} :
    a ∈ nextStreams st i ↔ (a ∈ st ∧ closedIn i a = false) ∨ a ∈ i.incoming := by
  simp [nextStreams, mem_admitAll, kept, closedIn]

theorem mem_liveAtFlush {live : List Addr} {i : IterInput} {a : Addr} :
    a ∈ liveAtFlush live i ↔ a ∈ nextStreams live i := by
  rw [mem_nextStreams]
  simp [liveAtFlush]

theorem nodup_nextStreams {st : List Addr} (i : IterInput) (h : st.Nodup) : (nextStreams st i).Nodup :=
  nodup_admitAll _ _ (List.Nodup.sublist List.filter_sublist h)

theorem polled_of_inputsOk {s : AppState} {i : IterInput} (hs : i.shutdown = false) (hok : InputsOk s i = true) :
    Polled s.streams i.polls := by
  simp only [InputsOk, hs, Bool.false_or, Bool.and_eq_true, decide_eq_true_eq, List.all_eq_true] at hok
  exact ⟨hok.1.1.1, hok.1.1.2⟩

theorem stepLoop_eq {h : Handlers} {s : AppState} {i : IterInput} (hs : i.shutdown = false)
    (hok : InputsOk s i = true) :
    stepLoop h s i = ({ streams := nextStreams s.streams i, phase := .running }, iterEffects h s.streams i) := by
  unfold stepLoop
  simp only [hs, Bool.false_eq_true, if_false, pollAll_eq h i.willPing i.polls s.streams (polled_of_inputsOk hs hok)]
  rfl

theorem inputsOk_phase (s : AppState) (i : IterInput) : InputsOk s i = InputsOk { streams := s.streams } i := rfl

/-- The effects of the iterations `ex`, none of which sees the shutdown signal, from the table `st`. -/
def bodyEffects (h : Handlers) : List Addr → List IterInput → List Effect
  | _, [] => []
  | st, i :: ex => iterEffects h st i ++ bodyEffects h (nextStreams st i) ex

def BodyOk : List Addr → List IterInput → Prop
  | _, [] => True
  | st, i :: ex => Polled st i.polls ∧ BodyOk (nextStreams st i) ex

theorem runLoop_stopped (h : Handlers) (s : AppState) (is : List IterInput) (hne : s.phase ≠ .running) :
    runLoop h s is = (s, []) := by
  cases is <;> simp [runLoop, hne]

theorem runLoop_shutdown (h : Handlers) {s : AppState} {i : IterInput} (is : List IterInput)
    (hp : s.phase = .running) (hs : i.shutdown = true) :
    runLoop h s (i :: is) = ({ s with phase := .exited }, [.exit]) := by
  rw [runLoop, if_pos hp]
  simp [stepLoop, hs, runLoop_stopped]

/-- A consistent run does not panic: its trace is that of the executed iterations, followed by nothing but the
`exit` of an iteration that sees the shutdown flag. -/
theorem run_trace {h : Handlers} : ∀ {is : List IterInput} {s : AppState}, s.phase = .running →
    RunOk h s is = true →
    ∃ X, (∀ e ∈ X, e = .exit) ∧ (runLoop h s is).2 = bodyEffects h s.streams (executed is) ++ X ∧
      BodyOk s.streams (executed is)
  | [], _, _, _ => ⟨[], nofun, rfl, trivial⟩
  | i :: is, s, hp, hok => by
    simp only [RunOk, hp, bne_self_eq_false, Bool.false_or, Bool.and_eq_true] at hok
    rw [executed]
    cases hs : i.shutdown
    · have hstep := stepLoop_eq (h := h) hs hok.1
      obtain ⟨X, hX, hT, hB⟩ := run_trace (is := is) rfl (hstep ▸ hok.2)
      simp only [runLoop, if_pos hp, hstep, Bool.false_eq_true, if_false, bodyEffects, List.append_assoc]
      exact ⟨X, hX, congrArg _ hT, polled_of_inputsOk hs hok.1, hB⟩
    · exact ⟨[.exit], by simp, by rw [runLoop_shutdown h is hp hs]; rfl, trivial⟩

theorem runLoop_append (h : Handlers) : ∀ (pre : List IterInput) (s : AppState) (rest : List IterInput),
    runLoop h s (pre ++ rest) = ((runLoop h (runLoop h s pre).1 rest).1,
      (runLoop h s pre).2 ++ (runLoop h (runLoop h s pre).1 rest).2)
  | [], _, _ => rfl
  | i :: pre, s, rest => by
    by_cases hp : s.phase = .running
    · simp only [List.cons_append, runLoop, if_pos hp, runLoop_append h pre, List.append_assoc]
    · simp only [runLoop_stopped h s _ hp, List.nil_append]

/-- A consistent run over inputs `pre` without the shutdown flag executes them all: it reaches a running state
whose table has no address twice if the first had none, with the trace `bodyEffects`, and what follows is
consistent from there. -/
theorem runLoop_pre {h : Handlers} {rest : List IterInput} : ∀ (pre : List IterInput) (s : AppState),
    s.phase = .running → (∀ j ∈ pre, j.shutdown = false) → RunOk h s (pre ++ rest) = true →
    (runLoop h s pre).2 = bodyEffects h s.streams pre ∧ BodyOk s.streams pre ∧
    (runLoop h s pre).1.phase = .running ∧ (s.streams.Nodup → (runLoop h s pre).1.streams.Nodup) ∧
    RunOk h (runLoop h s pre).1 rest = true
  | [], _, hp, _, hok => ⟨rfl, trivial, hp, id, hok⟩
  | j :: pre, s, hp, hpre, hok => by
    have hj := hpre j List.mem_cons_self
    simp only [List.cons_append, RunOk, hp, bne_self_eq_false, Bool.false_or, Bool.and_eq_true] at hok
    have hstep := stepLoop_eq (h := h) hj hok.1
    obtain ⟨h1, h2, h3, h4, h5⟩ := runLoop_pre pre _ rfl (fun k hk => hpre k (List.mem_cons_of_mem _ hk))
      (hstep ▸ hok.2)
    simp only [runLoop, hp, if_true, hstep, bodyEffects, BodyOk]
    exact ⟨by rw [h1], ⟨polled_of_inputsOk hj hok.1, h2⟩, h3, fun hn => h4 (nodup_nextStreams j hn), h5⟩

/-- The effects of flushing one message lie between the trace of the same iteration with the flush stopped before
that message and the flush of the remaining messages. -/
theorem flush_split {h : Handlers} {s : AppState} {i : IterInput} (hs : i.shutdown = false)
    (hok : InputsOk s i = true) {o : Out} {o1 o2 : List Out} (hout : i.outgoing = o1 ++ o :: o2) :
    (stepLoop h s i).2 = (stepLoop h s { i with outgoing := o1 }).2 ++ deliver (nextStreams s.streams i) o ++
      flush (stepLoop h s i).1.streams o2 := by
  have hok1 : InputsOk s { i with outgoing := o1 } = true := hok
  rw [stepLoop_eq hs hok, stepLoop_eq (i := { i with outgoing := o1 }) hs hok1]
  simp only [iterEffects, hout, flush, List.flatMap_append, List.flatMap_cons, List.append_assoc]
  rfl

end Humphrey.WsApp
