import HumphreyModel.Proofs.ConfLines

/-! Rejection with the reported line: a faulty line after any absorbed prefix of a file. -/
namespace Humphrey.Conf
open Humphrey.Glob

/-- `p` is the beginning of a file up to a point inside the `server` section: whatever follows,
the parser is in its loop at line `p.length` with `depth` sections open below the root. -/
def AbsorbsAt (fs : FS) (file : Str) (p : List Str) (depth : Nat) : Prop :=
  ∃ stack cur, stack.length = depth ∧ ∀ rest,
    parseConfLines fs (p ++ rest) file =
      finishServer (goLines (parseFile fs (maxDepth + 2)) file 0 rest p.length stack cur)

theorem absorbs_server (fs : FS) (file : Str) {d : Deco} (hd : d.ok) :
    AbsorbsAt fs file (mkLines d serverLine) 0 :=
  ⟨[], [], rfl, fun rest => by rw [parseConfLines_server fs file hd, mkLines_length]⟩

theorem absorbs_nodes {fs : FS} {file : Str} {p : List Str} {depth : Nat} (h : AbsorbsAt fs file p depth)
    (lay : Layout) (hl : lay.ok) (ns : List Node) (hwf : WFNodes ns) (path : List Nat) (i : Nat)
    (hdep : depth + nodesDepth ns ≤ maxDepth) :
    AbsorbsAt fs file (p ++ renderNodes lay path i ns) depth := by
  obtain ⟨stack, cur, hs, hp⟩ := h
  refine ⟨stack, ns.reverse ++ cur, hs, fun rest => ?_⟩
  rw [List.append_assoc, hp, go_renderNodes _ file 0 lay hl ns hwf path i rest _ stack cur (by omega),
    List.length_append]

theorem absorbs_open {fs : FS} {file : Str} {p : List Str} {depth : Nat} (h : AbsorbsAt fs file p depth)
    {d : Deco} (hd : d.ok) {hdr name : Str} {k : Kind} (hcl : classify hdr = .ok (k, name))
    (hh : tight hdr) (hno : ∀ x ∈ hdr, x ≠ '#') (hdep : depth + 1 ≤ maxDepth) :
    AbsorbsAt fs file (p ++ mkLines d (hdr ++ d.gap ++ ['{'])) (depth + 1) := by
  obtain ⟨stack, cur, hs, hp⟩ := h
  refine ⟨(k, name, cur) :: stack, [], by simp [hs], fun rest => ?_⟩
  rw [List.append_assoc, hp, go_header_line _ file 0 hd hcl hh hno _ _ _ _ (by omega),
    List.length_append, mkLines_length]

/-- A line that fails in every parser state is reported with its own line number. -/
theorem reject_at_line {fs : FS} {file : Str} {p : List Str} {depth : Nat} (h : AbsorbsAt fs file p depth)
    {bad : Str} {kind : ErrKind} (rest : List Str)
    (hbad : ∀ ln stack cur, goLines (parseFile fs (maxDepth + 2)) file 0 (bad :: rest) ln stack cur =
      .err ⟨kind, file, ln + 1⟩) :
    parseConfLines fs (p ++ bad :: rest) file = .err ⟨kind, file, p.length + 1⟩ := by
  obtain ⟨stack, cur, _, hp⟩ := h
  rw [hp, hbad]; rfl

/-- A key with a value that is of none of the four kinds is reported as a bad value at its line. -/
theorem bad_value_rejected_at_line {fs : FS} {file : Str} {p : List Str} {depth : Nat}
    (hp : AbsorbsAt fs file p depth) {d : Deco} (hd : d.ok) {key value : Str} (hk : okKey key)
    (hv : tight value) (hlast : value.getLast? ≠ some '{') (hno : ∀ x ∈ value, x ≠ '#')
    (ht : typeValue key value = .err ()) (rest : List Str) :
    parseConfLines fs (p ++ decoLine d (kvContent d key value) :: rest) file =
      .err ⟨.badValue, file, p.length + 1⟩ := by
  have hsep := hd.2.2.1
  have hc := cleanUp_decoLine hd (c := kvContent d key value)
    (spaced_all (fun _ h => (blank_clean h).1) hsep (okKey_content hk).noHash hno)
    (tight_append (okKey_content hk).tight hv (' ' :: d.sep))
  refine reject_at_line hp rest (fun ln stack cur => ?_)
  rw [go_kv_split _ file 0 hc ⟨hk.1, hk.2.1⟩ hsep hv hlast, if_pos hk.2.2, ht]

end Humphrey.Conf
