import HumphreyModel.Proofs.HttpReqParse
import HumphreyModel.Proofs.HttpReqSort
import HumphreyModel.Proofs.HttpMsgBytes
/-
C02 round trip: the serialisation of a parsed request is the rendering of a (core-)well-formed request
whose denotation is the original request with its headers stably sorted.
-/
namespace Humphrey.Http
open Humphrey Humphrey.Bytes Humphrey.IO

/-- Every spelling in the (generated) table is a non-empty token that lower-cases to its key.
Re-checked against the running code's table on every run. -/
theorem header_table_token : ∀ row ∈ Generated.headerTable,
    row.2.1 ≠ [] ∧ (∀ b ∈ row.2.1, Spec.isTchar b = true) ∧ asciiLower row.2.1 = row.1 := by decide +kernel

/-- A token has neither colon nor LF and is ASCII, hence UTF-8. -/
theorem header_table_display_ok : ∀ row ∈ Generated.headerTable,
    avoids [COLON, LF] row.2.1 ∧ utf8Valid row.2.1 = true ∧ asciiLower row.2.1 = row.1 := by
  intro row hm
  obtain ⟨-, ht, hl⟩ := header_table_token row hm
  refine ⟨?_, utf8Valid_ascii fun b hb => (isTchar_facts b (ht b hb)).2.2.2.2, hl⟩
  simp only [avoids_cons, avoids_nil, and_true]
  exact ⟨fun hc => (isTchar_facts _ (ht _ hc)).1 rfl, fun hc => (isTchar_facts _ (ht _ hc)).2.2.1 rfl⟩

theorem lookup_mem {l d : Bytes} {c : Nat} {t : List (Bytes × Bytes × Nat)}
    (h : lookup l t = some (d, c)) : (l, d, c) ∈ t := by
  induction t with
  | nil => cases h
  | cons row rest ih =>
    simp only [lookup] at h
    split at h
    · rename_i hk; cases h; simp [← hk]
    · exact List.mem_cons_of_mem _ (ih h)

theorem display_ok (n : HName) (h1 : avoids [COLON, LF] n.lower) (h2 : utf8Valid n.lower = true)
    (h3 : asciiLower n.lower = n.lower) :
    avoids [COLON, LF] n.display ∧ utf8Valid n.display = true ∧ asciiLower n.display = n.lower := by
  unfold HName.display
  cases hl : lookup n.lower Generated.headerTable with
  | none => exact ⟨h1, h2, h3⟩
  | some p =>
    obtain ⟨d, c⟩ := p
    exact header_table_display_ok _ (lookup_mem hl)

/-- The field a serialiser spells out: the `": "` it writes after a name is one SP of optional white space. -/
def Header.toWf (h : Header) : WfHeader := ⟨h.name.display, [SP], h.value⟩

/-- The request a serialisation spells out: an empty query is no query, since the serialiser then writes
no `?`. -/
def toWf (q : Request) : WfReq :=
  { method := q.method, path := q.uri,
    query := if q.query.isEmpty then none else some q.query,
    version := q.version,
    headers := q.headers.sorted.map Header.toWf,
    body := q.content }

theorem intercalate_append_sep {α} (sep : List α) : ∀ (l : List (List α)), l ≠ [] →
    sep.intercalate l ++ sep = (l.map (· ++ sep)).flatten
  | [], h => absurd rfl h
  | [x], _ => by simp [List.intercalate]
  | x :: y :: zs, _ => by
    have ih := intercalate_append_sep sep (y :: zs) (by simp)
    simp [List.intercalate] at ih ⊢
    rw [ih]

theorem toWf_startLine (q : Request) :
    (toWf q).startLine = q.method.name ++ [SP] ++ q.uri ++
      (if q.query.isEmpty then [] else [63] ++ q.query) ++ [SP] ++ q.version ++ crlf := by
  simp only [WfReq.startLine, WfReq.target, toWf]
  cases q.query.isEmpty <;> simp [QMARK]

theorem toWf_renderHeaders (q : Request) :
    renderHeaders (toWf q).headers =
      ((q.headers.sorted.map (fun h => h.name.display ++ [58, SP] ++ h.value)).map (· ++ crlf)).flatten := by
  simp only [renderHeaders, toWf, List.map_map]
  congr 1
  apply List.map_congr_left
  intro h _
  simp [WfHeader.render, Header.toWf, COLON]

theorem serialize_eq_render (q : Request) (hne : q.headers ≠ []) :
    serializeRequest q = (toWf q).render := by
  have hl : q.headers.sorted.map (fun h => h.name.display ++ [58, SP] ++ h.value) ≠ [] := by
    intro e
    rw [List.map_eq_nil_iff, sorted_eq_nil] at e
    exact hne e
  have h1 := intercalate_append_sep crlf _ hl
  unfold serializeRequest WfReq.render
  rw [toWf_startLine, toWf_renderHeaders, ← h1]
  simp [toWf]

/-- With no header the serialiser writes one CRLF too many (`start CRLF "" CRLF CRLF`). -/
theorem serialize_eq_render_nil (q : Request) (hnil : q.headers = []) :
    serializeRequest q = (toWf q).startLine ++ crlf ++ crlf ++ q.content.getD [] := by
  unfold serializeRequest
  rw [toWf_startLine, hnil]
  simp [Headers.sorted, List.intercalate]

theorem toWf_denote_headers (q : Request) (hq : q.WFParsed) :
    (toWf q).headers.map WfHeader.denote = q.headers.sorted := by
  simp only [toWf, List.map_map]
  conv => rhs; rw [← List.map_id q.headers.sorted]
  apply List.map_congr_left
  intro h hh
  have hm : h ∈ q.headers := mem_sorted.mp hh
  have := (display_ok h.name (hq.name_chars h hm) (hq.name_utf8 h hm) (hq.name_lower h hm)).2.2
  simp only [Function.comp, WfHeader.denote, Header.toWf, HName.ofName, this, id]

theorem toWf_core (q : Request) (hq : q.WFParsed) : (toWf q).Core where
  path_chars := hq.uri_chars
  path_utf8 := hq.uri_utf8
  query_chars := by
    intro x hx
    simp only [toWf] at hx
    split at hx
    · cases hx
    · injection hx with hx; subst hx; exact ⟨hq.query_chars, hq.query_utf8⟩
  version_nonempty := hq.version_nonempty
  version_chars := hq.version_chars
  version_utf8 := hq.version_utf8
  headers := by
    intro w hw
    simp only [toWf, List.mem_map] at hw
    obtain ⟨h, hh, rfl⟩ := hw
    have hm : h ∈ q.headers := mem_sorted.mp hh
    have hd := display_ok h.name (hq.name_chars h hm) (hq.name_utf8 h hm) (hq.name_lower h hm)
    exact ⟨hd.1, hd.2.1, by simp [Header.toWf, HTAB], hq.value_chars h hm, hq.value_utf8 h hm,
      hq.value_trimmed h hm⟩
  content_length := by
    have e : clValue (toWf q).headers = q.headers.get hContentLength := by
      rw [← get_contentLength_denote, toWf_denote_headers q hq, sorted_get]
    rw [e]
    exact hq.content_length

theorem fromHeaders_congr (p : Bytes → Option Ip) (t : Bytes → Bytes) (hs hs' : Headers) (peer : Ip)
    (port : Nat) (h : hs.get hXff = hs'.get hXff) :
    Address.fromHeaders p t hs peer port = Address.fromHeaders p t hs' peer port := by
  simp only [Address.fromHeaders, h]

end Humphrey.Http
