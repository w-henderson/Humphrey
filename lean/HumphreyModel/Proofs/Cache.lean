import HumphreyModel.Model.Cache
import HumphreyModel.Spec.Cache

/-!
The cache operations on one state: `find`/`remove` as `List.find?`/`List.eraseP`, what the eviction loop,
`set`, `get` and `serve` do when the counter is the sum of the stored lengths and keys are unique, and how
much lookups can return.
Histories are in `Proofs/CacheHistory.lean`.
-/
namespace Humphrey.Cache
open Humphrey.CacheSpec

def totalLen : List Item → Nat
  | [] => 0
  | it :: rest => it.data.length + totalLen rest

def key (it : Item) : Key := (it.route, it.host)

def val (it : Item) : Val := (it.data, it.mime, it.time)

def UniqueKeys (d : List Item) : Prop := d.Pairwise (fun a b => key a ≠ key b)

theorem isKey_iff (r : String) (h : Nat) (it : Item) : isKey r h it = true ↔ key it = (r, h) := by
  simp [isKey, key, Prod.ext_iff]

theorem totalLen_append (a b : List Item) : totalLen (a ++ b) = totalLen a + totalLen b := by
  induction a with
  | nil => simp [totalLen]
  | cons x a ih => simp [totalLen, ih, Nat.add_assoc]

theorem find_eq (r : String) (h : Nat) (d : List Item) : find r h d = d.find? (isKey r h) := by
  induction d with
  | nil => rfl
  | cons x d ih => rw [find, List.find?_cons, ih]; cases isKey r h x <;> rfl

theorem remove_eq (r : String) (h : Nat) (d : List Item) : remove r h d = d.eraseP (isKey r h) := by
  induction d with
  | nil => rfl
  | cons x d ih => rw [remove, List.eraseP_cons, ih]; cases isKey r h x <;> rfl

theorem find_some {r : String} {h : Nat} {d : List Item} {it : Item} (hf : find r h d = some it) :
    it ∈ d ∧ key it = (r, h) := by
  rw [find_eq] at hf
  exact ⟨List.mem_of_find?_eq_some hf, (isKey_iff r h it).mp (List.find?_some hf)⟩

theorem find_eq_none_iff {r : String} {h : Nat} {d : List Item} :
    find r h d = none ↔ ∀ it ∈ d, key it ≠ (r, h) := by
  simp only [find_eq, List.find?_eq_none, isKey_iff]

theorem find_eq_none_of {r : String} {h : Nat} {d : List Item} (hn : ∀ it ∈ d, key it ≠ (r, h)) :
    find r h d = none :=
  find_eq_none_iff.mpr hn

theorem find_append_new {r : String} {h : Nat} {d : List Item} {x : Item}
    (hn : ∀ it ∈ d, key it ≠ (r, h)) (hx : key x = (r, h)) : find r h (d ++ [x]) = some x := by
  rw [find_eq, List.find?_append, ← find_eq, find_eq_none_of hn]
  simp [(isKey_iff r h x).mpr hx]

theorem remove_sublist (r : String) (h : Nat) (d : List Item) : (remove r h d).Sublist d :=
  remove_eq r h d ▸ List.eraseP_sublist

theorem totalLen_remove {r : String} {h : Nat} {d : List Item} {old : Item}
    (hf : find r h d = some old) : totalLen (remove r h d) + old.data.length = totalLen d := by
  rw [find_eq, List.find?_eq_some_iff_append] at hf
  obtain ⟨hk, l₁, l₂, rfl, hl₁⟩ := hf
  rw [remove_eq, List.eraseP_append_right _ (by simpa using hl₁), List.eraseP_cons_of_pos hk]
  simp only [totalLen_append, totalLen]
  omega

theorem remove_no_key {r : String} {h : Nat} {d : List Item} (hu : UniqueKeys d) :
    ∀ it ∈ remove r h d, key it ≠ (r, h) := by
  induction d with
  | nil => simp [remove]
  | cons x d ih =>
    have hu' := List.pairwise_cons.mp hu
    simp only [remove]
    split
    · next hk =>
      intro it hit e
      exact hu'.1 it hit (((isKey_iff r h x).mp hk).trans e.symm)
    · next hk =>
      intro it hit
      rcases List.mem_cons.mp hit with rfl | hit
      · exact fun e => hk ((isKey_iff r h _).mpr e)
      · exact ih hu'.2 it hit

theorem uniqueKeys_snoc {d : List Item} {x : Item} (hu : UniqueKeys d)
    (hn : ∀ it ∈ d, key it ≠ key x) : UniqueKeys (d ++ [x]) :=
  List.pairwise_append.mpr ⟨hu, List.pairwise_singleton _ _,
    fun a ha _ hb => List.mem_singleton.mp hb ▸ hn a ha⟩

/-- On an exact counter the eviction loop panics only when the new item is larger than the limit (it
empties the deque and then indexes `data[0]`); otherwise it leaves a suffix of the deque, the counter still
exact, and room for the new item. -/
theorem evict_spec (len limit : Nat) (d : List Item) :
    (limit < len ∧ evict len limit (totalLen d) d = .panic) ∨
    ∃ pre d', d = pre ++ d' ∧ totalLen d' + len ≤ limit ∧
      evict len limit (totalLen d) d = .ok (totalLen d', d') := by
  induction d with
  | nil =>
    by_cases h : limit < len
    · exact Or.inl ⟨h, by simp [evict, totalLen, h]⟩
    · exact Or.inr ⟨[], [], rfl, by simp only [totalLen]; omega, by simp [evict, totalLen, h]⟩
  | cons x d ih =>
    have hx : totalLen (x :: d) = x.data.length + totalLen d := rfl
    simp only [evict]
    by_cases h : totalLen (x :: d) + len > limit
    · rw [if_pos h, if_neg (by omega), hx, Nat.add_sub_cancel_left]
      rcases ih with hp | ⟨pre, d', hd, hle, he⟩
      · exact Or.inl hp
      · exact Or.inr ⟨x :: pre, d', by rw [hd]; rfl, hle, he⟩
    · rw [if_neg h]
      exact Or.inr ⟨[], x :: d, rfl, by omega, rfl⟩

/-- What `set` does in a state with exact counter and unique keys: it panics only on an item larger than
the limit; otherwise it keeps a sub-list of the old entries, none of them for the key, appends the new
entry, and the counter is exact again and within the limit. -/
theorem set_spec (t : Nat) {c : Cache} (r : String) (h : Nat) (b : List UInt8) (m : Nat)
    (hsz : c.size = totalLen c.data) (hu : UniqueKeys c.data) :
    (c.limit < b.length ∧ set t c r h b m = .panic) ∨
    ∃ kept, kept.Sublist c.data ∧ (∀ it ∈ kept, key it ≠ (r, h)) ∧ totalLen kept + b.length ≤ c.limit ∧
      set t c r h b m = .ok { c with size := totalLen kept + b.length, data := kept ++ [⟨r, h, m, t, b⟩] } := by
  unfold set
  rw [hsz]
  rcases evict_spec b.length c.limit c.data with ⟨hl, he⟩ | ⟨pre, d₁, hd, hle, he⟩
  · exact Or.inl ⟨hl, by rw [he]⟩
  · have hsub : d₁.Sublist c.data := hd ▸ List.sublist_append_right pre d₁
    rw [he]
    simp only
    cases hf : find r h d₁ with
    | none => exact Or.inr ⟨d₁, hsub, find_eq_none_iff.mp hf, hle, rfl⟩
    | some old =>
      have hlen := totalLen_remove hf
      refine Or.inr ⟨remove r h d₁, (remove_sublist r h d₁).trans hsub,
        remove_no_key (hu.sublist hsub), by omega, ?_⟩
      simp only
      rw [if_neg (by omega), ← hlen, Nat.add_sub_cancel]

/-- What a successful lookup returns: a stored entry for exactly that key, not from the future and
not older than the time limit. -/
theorem get_ok_some {now : Nat} {c : Cache} {r : String} {h : Nat} {it : Item}
    (hg : get now c r h = .ok (some it)) :
    it ∈ c.data ∧ key it = (r, h) ∧ it.time ≤ now ∧ now - it.time ≤ c.timeLimit := by
  unfold get at hg
  split at hg
  · next it' hf =>
    split at hg
    · cases hg
    · split at hg
      · cases hg
      · cases hg
        exact ⟨(find_some hf).1, (find_some hf).2, by omega, by omega⟩
  · cases hg

/-- `get` panics only when the entry for the key was stored "in the future". -/
theorem get_no_panic {now : Nat} {c : Cache} {r : String} {h : Nat}
    (ht : ∀ it ∈ c.data, it.time ≤ now) : get now c r h ≠ .panic := by
  unfold get
  split
  · next it hf =>
    have := ht it (find_some hf).1
    split
    · omega
    · split <;> simp
  · simp

def sumOver (g : Key → Nat) : List Key → Nat
  | [] => 0
  | k :: ks => g k + sumOver g ks

def answerLen (now : Nat) (c : Cache) (k : Key) : Nat :=
  match get now c k.1 k.2 with
  | .ok (some it) => it.data.length
  | _ => 0

theorem totalLen_erase {d : List Item} {it : Item} (hit : it ∈ d) :
    totalLen (d.erase it) + it.data.length = totalLen d := by
  obtain ⟨l₁, l₂, _, rfl, he⟩ := List.exists_erase_eq hit
  rw [he]
  simp only [totalLen_append, totalLen]
  omega

/-- If every key of a duplicate-free list is charged either nothing or the length of some stored entry
with that key, the total charge is at most the total stored length. -/
theorem sumOver_le_totalLen (g : Key → Nat) (ks : List Key) (hnd : ks.Nodup) (d : List Item)
    (hg : ∀ k ∈ ks, g k = 0 ∨ ∃ it ∈ d, key it = k ∧ g k = it.data.length) :
    sumOver g ks ≤ totalLen d := by
  induction ks generalizing d with
  | nil => exact Nat.zero_le _
  | cons k ks ih =>
    have hnd' := List.nodup_cons.mp hnd
    have hg' := fun k' hk' => hg k' (List.mem_cons_of_mem _ hk')
    simp only [sumOver]
    rcases hg k List.mem_cons_self with h0 | ⟨it, hit, hkey, hlen⟩
    · have := ih hnd'.2 d hg'
      omega
    · -- `it` pays for `k`; the other keys are paid for by the entries that are left
      have h1 := ih hnd'.2 (d.erase it) (fun k' hk' => (hg' k' hk').imp_right
        fun ⟨it', hit', hkey', hlen'⟩ => ⟨it', (List.mem_erase_of_ne (fun e => hnd'.1
          (by rw [← hkey, ← e, hkey']; exact hk'))).mpr hit', hkey', hlen'⟩)
      have h2 := totalLen_erase hit
      omega

/-- In any state, what lookups at one time return for distinct keys adds up to at most the stored bytes. -/
theorem sumOver_answerLen_le (now : Nat) (c : Cache) (ks : List Key) (hnd : ks.Nodup) :
    sumOver (answerLen now c) ks ≤ totalLen c.data := by
  refine sumOver_le_totalLen _ ks hnd c.data fun k _ => ?_
  unfold answerLen
  split
  · next it hg =>
    obtain ⟨hmem, hkey, _, _⟩ := get_ok_some hg
    exact Or.inr ⟨it, hmem, hkey, rfl⟩
  · exact Or.inl rfl

/-- `serve` is a composition of cache operations: a hit is a successful `get` and leaves the cache
unchanged; a miss answers the file's current contents and stores them with `set` exactly when they fit
the limit. -/
theorem serve_cases {now : Nat} {c c' : Cache} {uri : String} {host : Nat} {contents : List UInt8}
    {mime : Nat} {s : Served} (hs : serve now c uri host contents mime = .ok (c', s)) :
    (s.hit = true ∧ c' = c ∧ 0 < c.limit ∧
        ∃ it, get now c uri host = .ok (some it) ∧ s.body = it.data ∧ s.mime = it.mime) ∨
    (s.hit = false ∧ s.body = contents ∧ s.mime = mime ∧
        ((c.limit < contents.length ∧ c' = c) ∨
         (contents.length ≤ c.limit ∧ set now c uri host contents mime = .ok c'))) := by
  unfold serve at hs
  simp only at hs
  generalize hm : (if c.limit ≥ contents.length then _ else _) = miss at hs
  have hmiss : miss = .ok (c', s) → (s.hit = false ∧ s.body = contents ∧ s.mime = mime ∧
        ((c.limit < contents.length ∧ c' = c) ∨
         (contents.length ≤ c.limit ∧ set now c uri host contents mime = .ok c'))) := by
    intro h
    subst hm
    split at h
    · next hle =>
      split at h
      · next c₁ hset => cases h; exact ⟨rfl, rfl, rfl, Or.inr ⟨hle, hset⟩⟩
      · cases h
    · next hgt => cases h; exact ⟨rfl, rfl, rfl, Or.inl ⟨by omega, rfl⟩⟩
  split at hs
  · next hpos =>
    split at hs
    · cases hs
    · next it hget => cases hs; exact Or.inl ⟨rfl, rfl, hpos, it, hget, rfl, rfl⟩
    · exact Or.inr (hmiss hs)
  · exact Or.inr (hmiss hs)

/-- `serve` panics only where `get` or `set` does. -/
theorem serve_no_panic {now : Nat} {c : Cache} {uri : String} {host : Nat} {contents : List UInt8}
    {mime : Nat} (hg : get now c uri host ≠ .panic)
    (hs : contents.length ≤ c.limit → ∃ c', set now c uri host contents mime = .ok c') :
    ∃ c' s, serve now c uri host contents mime = .ok (c', s) := by
  unfold serve
  simp only
  generalize hm : (if c.limit ≥ contents.length then _ else _) = miss
  have hmiss : ∃ c' s, miss = .ok (c', s) := by
    subst hm
    split
    · next hle =>
      obtain ⟨c', h⟩ := hs hle
      exact ⟨c', _, by rw [h]⟩
    · exact ⟨_, _, rfl⟩
  split
  · split
    · next h => exact absurd h hg
    · exact ⟨_, _, rfl⟩
    · exact hmiss
  · exact hmiss
end Humphrey.Cache
