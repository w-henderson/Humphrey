import HumphreyModel.Model.Fs
import HumphreyModel.Spec.Fs
import HumphreyModel.Proofs.HttpReqBytes
/-!
Lemmas for C06 about the world and about path texts: descent (`lookup`), the path walk (`step`,
`walk`), splitting a path text into components, and the `..` test.
-/
namespace Humphrey.Fs
open Humphrey

/-- Found once here: the search for this instance is long, and most `simp` calls about `==`,
`contains` and `∈` on bytes ask for it. -/
instance lawfulBEqUInt8 : LawfulBEq UInt8 := inferInstance

theorem contains_of_not_mem {b : UInt8} {s : Bytes} (h : b ∉ s) : s.contains b = false := by
  simpa using h

@[simp] theorem lookup_nil (n : Node) : lookup n [] = some n := by
  cases n <;> simp [lookup]

@[simp] theorem lookup_file_cons (c : Bytes) (a : Name) (as : List Name) :
    lookup (.file c) (a :: as) = none := by simp [lookup]

theorem lookup_dir_cons (es : List (Name × Node)) (a : Name) (as : List Name) :
    lookup (.dir es) (a :: as) = (findEntry a es).bind (fun ch => lookup ch as) := by
  simp only [lookup]
  cases findEntry a es <;> simp

theorem lookup_append (n : Node) (a b : List Name) :
    lookup n (a ++ b) = (lookup n a).bind (fun m => lookup m b) := by
  induction a generalizing n with
  | nil => simp
  | cons c cs ih =>
    cases n with
    | file _ => simp
    | dir es =>
      simp only [List.cons_append, lookup_dir_cons]
      cases findEntry c es with
      | none => simp
      | some ch => simp [ih]

theorem lookup_join {n k m : Node} {a b : List Name} (ha : lookup n a = some k)
    (hb : lookup k b = some m) : lookup n (a ++ b) = some m := by
  rw [lookup_append, ha]; exact hb

theorem lookup_snoc {n : Node} {a : List Name} {es : List (Name × Node)}
    (ha : lookup n a = some (.dir es)) (c : Name) : lookup n (a ++ [c]) = findEntry c es := by
  rw [lookup_append, ha, Option.bind_some, lookup_dir_cons]
  cases findEntry c es <;> rfl

theorem lookup_prefix {n : Node} {a b : List Name} {m : Node} (h : lookup n (a ++ b) = some m) :
    ∃ k, lookup n a = some k ∧ lookup k b = some m := by
  rwa [lookup_append, Option.bind_eq_some_iff] at h

theorem findEntry_eq_entryOf (n : Name) (es : List (Name × Node)) :
    findEntry n es = Spec.entryOf es n := by
  induction es with
  | nil => simp [findEntry, Spec.entryOf]
  | cons e es ih =>
    obtain ⟨k, v⟩ := e
    by_cases hk : k = n
    · simp [findEntry, Spec.entryOf, hk]
    · have : (k == n) = false := by simpa using hk
      simp [findEntry, hk, ih, Spec.entryOf, List.find?, this]

theorem lookup_iff_descends (n : Node) (cs : List Name) (m : Node) :
    lookup n cs = some m ↔ Spec.Descends n cs m := by
  constructor
  · intro h
    induction cs generalizing n with
    | nil => simp at h; subst h; exact .here _
    | cons c cs ih =>
      cases n with
      | file _ => simp at h
      | dir es =>
        rw [lookup_dir_cons, Option.bind_eq_some_iff] at h
        obtain ⟨ch, hf, h⟩ := h
        exact .down (findEntry_eq_entryOf c es ▸ hf) (ih ch h)
  · intro h
    induction h with
    | here n => simp
    | down he _ ih =>
      rw [lookup_dir_cons, findEntry_eq_entryOf, he]
      simpa using ih

theorem step_cases {world : Node} {cur : List Name} {c : Name} {cur' : List Name}
    (h : step world cur c = some cur') :
    (∃ es, lookup world cur = some (.dir es)) ∧
    (((c = [] ∨ c = [46]) ∧ cur' = cur) ∨ (c = [46, 46] ∧ cur' = cur.dropLast) ∨
      (c ≠ [46, 46] ∧ cur' = cur ++ [c] ∧ ∃ m, lookup world (cur ++ [c]) = some m)) := by
  unfold step at h
  split at h
  next es hes =>
    refine ⟨⟨es, hes⟩, ?_⟩
    by_cases h0 : c.contains 0 = true
    · rw [if_pos h0] at h; cases h
    rw [if_neg h0] at h
    by_cases h1 : c = [] ∨ c = [46]
    · rw [if_pos h1] at h; exact .inl ⟨h1, (Option.some.inj h).symm⟩
    rw [if_neg h1] at h
    by_cases h2 : c = [46, 46]
    · rw [if_pos h2] at h; exact .inr (.inl ⟨h2, (Option.some.inj h).symm⟩)
    rw [if_neg h2] at h
    cases hm : lookup world (cur ++ [c]) with
    | none => rw [hm] at h; cases h
    | some m => rw [hm] at h; exact .inr (.inr ⟨h2, (Option.some.inj h).symm, m, rfl⟩)
  next => cases h

theorem step_valid {world : Node} {cur : List Name} {c : Name} {cur' : List Name}
    (h : step world cur c = some cur') : ∃ m, lookup world cur' = some m := by
  obtain ⟨⟨es, hes⟩, hc⟩ := step_cases h
  rcases hc with ⟨-, rfl⟩ | ⟨-, rfl⟩ | ⟨-, rfl, m, hm⟩
  · exact ⟨_, hes⟩
  · obtain ⟨t, ht⟩ := List.dropLast_prefix cur
    rw [← ht] at hes
    obtain ⟨k, hk, -⟩ := lookup_prefix hes
    exact ⟨k, hk⟩
  · exact ⟨m, hm⟩

theorem walk_nil (world : Node) (cur : List Name) : walk world cur [] = some cur := by simp [walk]

theorem walk_cons (world : Node) (cur : List Name) (c : Name) (cs : List Name) :
    walk world cur (c :: cs) = (step world cur c).bind (fun cur' => walk world cur' cs) := by
  simp only [walk]
  cases step world cur c <;> simp

theorem walk_append (world : Node) (cur : List Name) (xs ys : List Name) :
    walk world cur (xs ++ ys) = (walk world cur xs).bind (fun c => walk world c ys) := by
  induction xs generalizing cur with
  | nil => simp [walk_nil]
  | cons x xs ih =>
    simp only [List.cons_append, walk_cons]
    cases step world cur x with
    | none => simp
    | some cur' => simp [ih]

theorem walk_descends {world : Node} {comps : List Name} (hno : ∀ c ∈ comps, c ≠ [46, 46])
    {cur p : List Name} (h : walk world cur comps = some p) : ∃ rel, p = cur ++ rel := by
  induction comps generalizing cur with
  | nil => simp [walk_nil] at h; exact ⟨[], by simp [h]⟩
  | cons c cs ih =>
    rw [walk_cons, Option.bind_eq_some_iff] at h
    obtain ⟨cur', hs, h⟩ := h
    obtain ⟨rel, hrel⟩ := ih (fun x hx => hno x (List.mem_cons_of_mem _ hx)) h
    obtain ⟨-, hc⟩ := step_cases hs
    rcases hc with ⟨-, rfl⟩ | ⟨hdd, -⟩ | ⟨-, rfl, -⟩
    · exact ⟨rel, hrel⟩
    · exact absurd hdd (hno c (List.mem_cons_self ..))
    · exact ⟨c :: rel, by simp [hrel]⟩

theorem walk_valid {world : Node} {comps : List Name} {cur p : List Name}
    (hcur : ∃ m, lookup world cur = some m) (h : walk world cur comps = some p) :
    ∃ m, lookup world p = some m := by
  induction comps generalizing cur with
  | nil => simp [walk_nil] at h; subst h; exact hcur
  | cons c cs ih =>
    rw [walk_cons, Option.bind_eq_some_iff] at h
    obtain ⟨cur', hs, h⟩ := h
    exact ih (step_valid hs) h

/-- The split of `a`, `sep`, `b` is the split of `a` followed by the split of `b`, whether or not `a`
contains separators itself. -/
theorem splitOn_at_sep (sep : UInt8) (a b : Bytes) :
    Bytes.splitOn sep (a ++ sep :: b) = Bytes.splitOn sep a ++ Bytes.splitOn sep b := by
  induction a with
  | nil => simp [Bytes.splitOn]
  | cons x a ih =>
    simp only [List.cons_append, Bytes.splitOn]
    by_cases hx : x = sep
    · simp [hx, ih]
    · simp only [hx, if_false, ih]
      cases hsa : Bytes.splitOn sep a with
      | nil => exact absurd hsa (Bytes.splitOn_ne_nil sep a)
      | cons p ps => simp

theorem splitOn_head_prefix {sep : UInt8} {s p : Bytes} {ps : List Bytes}
    (h : Bytes.splitOn sep s = p :: ps) : p <+: s := by
  obtain ⟨-, hone, hmore⟩ := Bytes.splitOn_inv h
  cases ps with
  | nil => exact hone rfl ▸ List.prefix_refl _
  | cons q qs =>
    obtain ⟨s', rfl, -⟩ := hmore (List.cons_ne_nil _ _)
    exact List.prefix_append _ _

theorem mem_splitOn_infix {sep : UInt8} {s c : Bytes} (h : c ∈ Bytes.splitOn sep s) : c <:+: s := by
  induction s generalizing c with
  | nil => rw [Bytes.splitOn, List.mem_singleton] at h; rw [h]; exact List.infix_refl _
  | cons b rest ih =>
    have up {x : Bytes} (hx : x <:+: rest) : x <:+: b :: rest := hx.trans (List.suffix_cons b rest).isInfix
    rw [Bytes.splitOn] at h
    by_cases hb : b = sep
    · rw [if_pos hb, List.mem_cons] at h
      rcases h with rfl | h
      · exact List.nil_infix
      · exact up (ih h)
    · cases hsp : Bytes.splitOn sep rest with
      | nil => exact absurd hsp (Bytes.splitOn_ne_nil sep rest)
      | cons p ps =>
        rw [if_neg hb, hsp, List.mem_cons] at h
        rcases h with rfl | h
        · exact (List.cons_prefix_cons.mpr ⟨rfl, splitOn_head_prefix hsp⟩).isInfix
        · exact up (ih (hsp ▸ List.mem_cons_of_mem _ h))

theorem utf8_cons (c : Char) (s : List Char) : utf8 (c :: s) = String.utf8EncodeChar c ++ utf8 s := by
  simp [utf8]

theorem hasDotDot_cons_cons (a b : UInt8) (rest : Bytes) :
    hasDotDot (a :: b :: rest) = ((a == 46 && b == 46) || hasDotDot (b :: rest)) := by
  simp [hasDotDot]

theorem hasDotDot_cons_ne {a : UInt8} (h : a ≠ 46) (s : Bytes) : hasDotDot (a :: s) = hasDotDot s := by
  cases s with
  | nil => simp [hasDotDot]
  | cons b r => rw [hasDotDot_cons_cons]; simp [h]

/-- `hasDotDot` is `contains("..")`. -/
theorem hasDotDot_iff_infix (s : Bytes) : hasDotDot s = true ↔ [46, 46] <:+: s := by
  induction s with
  | nil => simp [hasDotDot]
  | cons a rest ih =>
    rw [List.infix_cons_iff, ← ih]
    cases rest with
    | nil => simp [hasDotDot]
    | cons b r => simp [hasDotDot_cons_cons, List.cons_prefix_cons, @eq_comm _ (46 : UInt8)]

theorem hasDotDot_infix {s t : Bytes} (hst : s <:+: t) (h : hasDotDot t = false) : hasDotDot s = false := by
  rw [← Bool.not_eq_true, hasDotDot_iff_infix] at h ⊢
  exact fun hs => h (hs.trans hst)

/-- The key lemma: no `..` substring ⇒ no `..` component. -/
theorem no_dotdot_component {s : Bytes} (h : hasDotDot s = false) :
    ∀ c ∈ components s, c ≠ [46, 46] := by
  rintro c hc rfl
  exact absurd (hasDotDot_infix (mem_splitOn_infix hc) h) (by decide)

end Humphrey.Fs
