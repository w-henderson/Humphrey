import HumphreyModel.Model.WsFrame

/-!
`read_exact` over a scripted reader delivers the next `n` bytes of the concatenated script
(when every `read` returns at least one byte), and the decoder run over two streams that deliver
the same bytes gives the same result. Last, for any stream: a successful decode has consumed at
least the header and the payload it returns.
-/
namespace Humphrey.WsFrame

def NonEmptyReads (s : List Bytes) : Prop := ∀ c ∈ s, c ≠ []

/-- `read_exact` over a stream that is just the bytes still to come. -/
def takeExact (n : Nat) (bs : Bytes) : Option (Bytes × Bytes) :=
  if n ≤ bs.length then some (bs.take n, bs.drop n) else none

/-- The decoder over a flat byte string (proof device; `decodeFrame` is the model). -/
def decodeFlat (bs : Bytes) : DecodeResult Bytes := decodeWith takeExact bs

theorem readExact_flat (n : Nat) (s : List Bytes) (h : NonEmptyReads s) :
    (readExact n s = none ∧ s.flatten.length < n) ∨
    ∃ s', readExact n s = some (s.flatten.take n, s') ∧ n ≤ s.flatten.length ∧
      s'.flatten = s.flatten.drop n ∧ NonEmptyReads s' := by
  have tl : ∀ {c cs}, NonEmptyReads (c :: cs) → NonEmptyReads cs :=
    fun h d hd => h d (List.mem_cons_of_mem _ hd)
  fun_induction readExact n s with
  | case1 s => exact .inr ⟨s, rfl, Nat.zero_le _, rfl, h⟩
  | case2 n => exact .inl ⟨rfl, Nat.succ_pos n⟩
  | case3 n c cs h0 => exact absurd (List.eq_nil_of_length_eq_zero h0) (h c (by simp))
  | case4 n c cs _ hle hr ih =>
    rcases ih (tl h) with ⟨_, hlt⟩ | ⟨s', hs, _⟩
    · left
      refine ⟨rfl, ?_⟩
      simp only [List.flatten_cons, List.length_append]; omega
    · rw [hr] at hs; cases hs
  | case5 n c cs _ hle bs s1 hr ih =>
    rcases ih (tl h) with ⟨hn, _⟩ | ⟨s', hs, hle', hfl, hne⟩
    · rw [hr] at hn; cases hn
    · rw [hr] at hs; cases hs
      refine .inr ⟨_, ?_, ?_, ?_, hne⟩
      · rw [List.flatten_cons, List.take_append, List.take_of_length_le hle]
      · simp only [List.flatten_cons, List.length_append]; omega
      · rw [hfl, List.flatten_cons, List.drop_append, List.drop_of_length_le hle, List.nil_append]
  | case6 n c cs h0 hgt =>
    refine .inr ⟨c.drop (n + 1) :: cs, ?_, ?_, ?_, ?_⟩
    · rw [List.flatten_cons, List.take_append_of_le_length (by omega)]
    · simp only [List.flatten_cons, List.length_append]; omega
    · rw [List.flatten_cons, List.flatten_cons, List.drop_append_of_le_length (by omega)]
    · intro d hd
      rcases List.mem_cons.mp hd with rfl | hd
      · intro h0
        have : (c.drop (n + 1)).length = 0 := by rw [h0]; rfl
        simp only [List.length_drop] at this; omega
      · exact tl h d hd

def field {σ α : Type} (rd : Nat → σ → Option (Bytes × σ)) (k : Nat) (g : Bytes → Option α) (s : σ) :
    Option (α × σ) :=
  match rd k s with
  | none => none
  | some (bs, s) => (g bs).map (·, s)

def keyOf : Bytes → Option Key
  | [a, b, c, d] => some ⟨a, b, c, d⟩
  | _ => none

def headerOf : Bytes → Option (UInt8 × UInt8)
  | [h0, h1] => some (h0, h1)
  | _ => none

section
variable {σ : Type} (rd : Nat → σ → Option (Bytes × σ)) (s : σ)

theorem readLength_eq (len7 : Nat) :
    readLength rd len7 s =
      if len7 = 126 then field rd 2 (fun bs => some (fromBe bs)) s
      else if len7 = 127 then field rd 8 (fun bs => some (fromBe bs)) s
      else some (len7, s) := by
  unfold readLength field
  split
  · cases rd 2 s <;> rfl
  · split
    · cases rd 8 s <;> rfl
    · rfl

theorem readKey_eq (mask : Bool) :
    readKey rd mask s = if mask then field rd 4 keyOf s else some (Key.zero, s) := by
  unfold readKey field
  split
  · cases rd 4 s with
    | none => rfl
    | some p =>
      obtain ⟨bs, s'⟩ := p
      rcases bs with _ | ⟨a, _ | ⟨b, _ | ⟨c, _ | ⟨d, _ | _⟩⟩⟩⟩ <;> rfl
  · rfl

theorem decodeWith_eq :
    decodeWith rd s = match field rd 2 headerOf s with
      | some ((h0, h1), s) => innerWith rd s h0 h1
      | none => ⟨none, .error .readError⟩ := by
  unfold decodeWith field
  cases rd 2 s with
  | none => rfl
  | some p =>
    obtain ⟨bs, s'⟩ := p
    rcases bs with _ | ⟨a, _ | ⟨b, _ | _⟩⟩ <;> rfl
end

section Sim
variable {σ₁ σ₂ : Type} (R : σ₁ → σ₂ → Prop)
variable (rd₁ : Nat → σ₁ → Option (Bytes × σ₁)) (rd₂ : Nat → σ₂ → Option (Bytes × σ₂))

def StepRel {α : Type} (o₁ : Option (α × σ₁)) (o₂ : Option (α × σ₂)) : Prop :=
  (o₁ = none ∧ o₂ = none) ∨ ∃ x a b, o₁ = some (x, a) ∧ o₂ = some (x, b) ∧ R a b

def Sim : Prop := ∀ n a b, R a b →
  (rd₁ n a = none ∧ rd₂ n b = none) ∨
  ∃ x a' b', rd₁ n a = some (x, a') ∧ rd₂ n b = some (x, b') ∧ R a' b'

def ResRel (r₁ : DecodeResult σ₁) (r₂ : DecodeResult σ₂) : Prop :=
  r₁.alloc = r₂.alloc ∧
  ((∃ e, r₁.result = .error e ∧ r₂.result = .error e) ∨
   ∃ f a b, r₁.result = .ok (f, a) ∧ r₂.result = .ok (f, b) ∧ R a b)

variable {R rd₁ rd₂}

theorem field_sim {α : Type} (h : Sim R rd₁ rd₂) (k : Nat) (g : Bytes → Option α) {a : σ₁} {b : σ₂}
    (hab : R a b) : StepRel R (field rd₁ k g a) (field rd₂ k g b) := by
  unfold field
  rcases h k a b hab with ⟨h1, h2⟩ | ⟨x, a', b', h1, h2, hr⟩ <;> rw [h1, h2]
  · exact .inl ⟨rfl, rfl⟩
  · show StepRel R ((g x).map (·, a')) ((g x).map (·, b'))
    cases g x with
    | none => exact .inl ⟨rfl, rfl⟩
    | some y => exact .inr ⟨y, a', b', rfl, rfl, hr⟩

theorem readLength_sim (h : Sim R rd₁ rd₂) (len7 : Nat) {a : σ₁} {b : σ₂} (hab : R a b) :
    StepRel R (readLength rd₁ len7 a) (readLength rd₂ len7 b) := by
  rw [readLength_eq, readLength_eq]
  split
  · exact field_sim h _ _ hab
  · split
    · exact field_sim h _ _ hab
    · exact .inr ⟨len7, a, b, rfl, rfl, hab⟩

theorem readKey_sim (h : Sim R rd₁ rd₂) (mask : Bool) {a : σ₁} {b : σ₂} (hab : R a b) :
    StepRel R (readKey rd₁ mask a) (readKey rd₂ mask b) := by
  rw [readKey_eq, readKey_eq]
  split
  · exact field_sim h _ _ hab
  · exact .inr ⟨Key.zero, a, b, rfl, rfl, hab⟩

theorem innerWith_sim (h : Sim R rd₁ rd₂) (h0 h1 : UInt8) {a : σ₁} {b : σ₂} (hab : R a b) :
    ResRel R (innerWith rd₁ a h0 h1) (innerWith rd₂ b h0 h1) := by
  unfold innerWith
  cases Opcode.ofNat? (h0 &&& 0xF).toNat with
  | none => exact ⟨rfl, .inl ⟨_, rfl, rfl⟩⟩
  | some op =>
    simp only
    rcases readLength_sim h (h1 &&& 0x7F).toNat hab with ⟨e1, e2⟩ | ⟨len, a1, b1, e1, e2, r1⟩
    · rw [e1, e2]; exact ⟨rfl, .inl ⟨_, rfl, rfl⟩⟩
    · rw [e1, e2]; simp only
      rcases readKey_sim h (h1 &&& 0x80 != 0) r1 with ⟨e1, e2⟩ | ⟨key, a2, b2, e1, e2, r2⟩
      · rw [e1, e2]; exact ⟨rfl, .inl ⟨_, rfl, rfl⟩⟩
      · rw [e1, e2]; simp only
        rcases h len a2 b2 r2 with ⟨e1, e2⟩ | ⟨pl, a3, b3, e1, e2, r3⟩
        · rw [e1, e2]; exact ⟨rfl, .inl ⟨_, rfl, rfl⟩⟩
        · rw [e1, e2]; exact ⟨rfl, .inr ⟨_, a3, b3, rfl, rfl, r3⟩⟩

theorem decodeWith_sim (h : Sim R rd₁ rd₂) {a : σ₁} {b : σ₂} (hab : R a b) :
    ResRel R (decodeWith rd₁ a) (decodeWith rd₂ b) := by
  rw [decodeWith_eq, decodeWith_eq]
  rcases field_sim h 2 headerOf hab with ⟨e1, e2⟩ | ⟨⟨h0, h1⟩, a', b', e1, e2, r⟩ <;> rw [e1, e2]
  · exact ⟨rfl, .inl ⟨_, rfl, rfl⟩⟩
  · exact innerWith_sim h h0 h1 r
end Sim

section Transfer
variable {σ₁ σ₂ : Type} {R : σ₁ → σ₂ → Prop} {r₁ : DecodeResult σ₁} {r₂ : DecodeResult σ₂}

theorem ResRel.error_right (h : ResRel R r₁ r₂) {e : WsErr} (h2 : r₂.result = .error e) :
    r₁.result = .error e := by
  obtain ⟨_, ⟨e', h1, h2'⟩ | ⟨f, a, b, _, h2', _⟩⟩ := h
  · rw [h2] at h2'; cases h2'; exact h1
  · rw [h2] at h2'; cases h2'

theorem ResRel.ok_right (h : ResRel R r₁ r₂) {f : Frame} {b : σ₂} (h2 : r₂.result = .ok (f, b)) :
    ∃ a, r₁.result = .ok (f, a) ∧ R a b := by
  obtain ⟨_, ⟨e', _, h2'⟩ | ⟨f', a, b', h1, h2', hr⟩⟩ := h
  · rw [h2] at h2'; cases h2'
  · rw [h2] at h2'; cases h2'; exact ⟨a, h1, hr⟩
end Transfer

def ChunkRel (s : List Bytes) (bs : Bytes) : Prop := NonEmptyReads s ∧ s.flatten = bs

theorem readExact_takeExact_sim : Sim ChunkRel readExact takeExact := by
  intro n s bs ⟨hne, hfl⟩
  subst hfl
  rcases readExact_flat n s hne with ⟨e, hlt⟩ | ⟨s', e, hle, hfl, hne'⟩
  · left; exact ⟨e, by unfold takeExact; rw [if_neg (by omega)]⟩
  · right; exact ⟨_, s', _, e, by unfold takeExact; rw [if_pos hle], hne', hfl⟩

/-- The decoder over a script of non-empty reads does what the decoder over the flat bytes does. -/
theorem decodeFrameFull_flat (s : List Bytes) (h : NonEmptyReads s) :
    ResRel ChunkRel (decodeFrameFull s) (decodeFlat s.flatten) :=
  decodeWith_sim readExact_takeExact_sim ⟨h, rfl⟩

/-- A successful decode read the header, the length, the key and the payload, in this order. -/
theorem decodeWith_ok {σ : Type} {rd : Nat → σ → Option (Bytes × σ)} {s s' : σ} {f : Frame}
    (h : (decodeWith rd s).result = .ok (f, s')) :
    ∃ h0 h1 s1 s2 s3 p, rd 2 s = some ([h0, h1], s1) ∧
      readLength rd (h1 &&& 0x7F).toNat s1 = some (f.length, s2) ∧
      readKey rd (h1 &&& 0x80 != 0) s2 = some (f.key, s3) ∧
      rd f.length s3 = some (p, s') ∧ f.payload = xorKey f.key 0 p := by
  unfold decodeWith at h
  split at h
  · rename_i h0 h1 s1 hr
    unfold innerWith at h
    simp only at h
    split at h
    · cases h
    · split at h
      · cases h
      · rename_i hl
        split at h
        · cases h
        · rename_i hk
          split at h
          · cases h
          · rename_i hp
            cases h
            exact ⟨h0, h1, s1, _, _, _, hr, hl, hk, hp, rfl⟩
  · cases h

section Measure
variable {σ : Type} {rd : Nat → σ → Option (Bytes × σ)} {m : σ → Nat}
  (hrd : ∀ n s bs s', rd n s = some (bs, s') → m s' + n ≤ m s)
include hrd

theorem field_measure {α : Type} {k : Nat} {g : Bytes → Option α} {s s' : σ} {x : α}
    (h : field rd k g s = some (x, s')) : m s' + k ≤ m s := by
  unfold field at h
  split at h
  · cases h
  · rename_i bs s1 hr
    cases hg : g bs with
    | none => rw [hg] at h; cases h
    | some y => rw [hg] at h; cases h; exact hrd _ _ _ _ hr

theorem readLength_measure {l : Nat} {s s' : σ} {len : Nat}
    (h : readLength rd l s = some (len, s')) : m s' ≤ m s := by
  rw [readLength_eq] at h
  split at h
  · exact Nat.le_of_add_right_le (field_measure hrd h)
  · split at h
    · exact Nat.le_of_add_right_le (field_measure hrd h)
    · cases h; exact Nat.le_refl _

theorem readKey_measure {mask : Bool} {s s' : σ} {k : Key}
    (h : readKey rd mask s = some (k, s')) : m s' ≤ m s := by
  rw [readKey_eq] at h
  split at h
  · exact Nat.le_of_add_right_le (field_measure hrd h)
  · cases h; exact Nat.le_refl _

/-- A successful decode consumed the two header bytes and the payload it returns, whatever the
stream, as long as its `read_exact` consumes what it delivers (`m` measures what is left). -/
theorem decodeWith_measure {s s' : σ} {f : Frame}
    (h : (decodeWith rd s).result = .ok (f, s')) : m s' + 2 + f.length ≤ m s := by
  obtain ⟨_, _, _, _, _, _, hr, hl, hk, hp, _⟩ := decodeWith_ok h
  have := hrd _ _ _ _ hr
  have := readLength_measure hrd hl
  have := readKey_measure hrd hk
  have := hrd _ _ _ _ hp
  omega
end Measure

end Humphrey.WsFrame
