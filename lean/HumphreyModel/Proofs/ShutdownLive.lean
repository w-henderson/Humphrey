import HumphreyModel.Proofs.Shutdown
import HumphreyModel.Props.C08

/-!
C20: the termination measure of `Model/Shutdown.lean` (built on C08's `Pool.measure`), the bound on the
accept loop's iterations (the queue plus what arrives before the flag is stored; one once it is visible), and
progress: as long as `run` has not returned some thread can move (uses C08's `drop_never_blocks`). After that
the driver's `terminalB` against `Terminal`, and the order of flag store and wake-up connection in a run.
-/
namespace Humphrey.Shutdown
open Humphrey

/- The ranks are chosen so that a step of the accept loop pays for what it adds elsewhere in `measure`:
`accept` climbs from 4 to 23 and takes a connection (20) off the queue; `execute` falls from 21 to 4 while
`Pool.measure` grows by 11; the caller's `selfConnect` falls from 22 to 1 while the wake-up connection adds 20 to
the queue. -/
def Acc.rank : Acc → Nat
  | .exited => 0
  | .dropPool => 1
  | .dropListener => 2
  | .poolStop => 3
  | .accepting => 4
  | .execute _ => 21
  | .condition _ => 22
  | .checkFlag _ => 23

def Caller.rank : Caller → Nat
  | .returned => 0
  | .joinAccept => 1
  | .selfConnect => 22
  | .storeFlag => 23
  | .waitSignal => 24

/-- One pending connection is worth a whole iteration of the accept loop including the task it queues
(`Pool.measure` grows by 11 on `submit`). -/
def measure (c : Cfg) (s : State) : Nat :=
  Pool.measure c.pool s.pool + 20 * s.backlog.length + s.acc.rank + s.caller.rank + (if s.signalSent then 0 else 1)

theorem measure_lt_of_ranks {c : Cfg} {s s' : State} (hp : s'.pool = s.pool) (hs : s'.signalSent = s.signalSent)
    (h : 20 * s'.backlog.length + s'.acc.rank + s'.caller.rank < 20 * s.backlog.length + s.acc.rank + s.caller.rank) :
    measure c s' < measure c s := by
  unfold measure
  rw [hp, hs]
  omega

theorem measure_lt_of_pool {c : Cfg} {s : State} {p : Pool.State}
    (h : Pool.measure c.pool p < Pool.measure c.pool s.pool) : measure c { s with pool := p } < measure c s :=
  Nat.add_lt_add_right (Nat.add_lt_add_right (Nat.add_lt_add_right (Nat.add_lt_add_right h _) _) _) _

theorem measure_step {c : Cfg} {s s' : State} {l : Label} (st : Step c s l s') :
    (l.isArrive = false → measure c s' < measure c s) ∧ (l.isArrive = true → measure c s' = measure c s + 20) := by
  cases st
  case arrive => exact ⟨nofun, fun _ => by simp +arith only [measure, List.length_append, List.length_singleton]⟩
  case signal h1 => exact ⟨fun _ => by simp [measure, h1], nofun⟩
  case execute h1 h2 =>
    have := (Pool.measure_step (Pool.Step.of_step h2)).2 rfl
    exact ⟨fun _ => by simp only [measure, h1, Acc.rank]; omega, nofun⟩
  case poolStop h1 h2 =>
    have := (Pool.Step.of_step h2).measure_lt rfl
    exact ⟨fun _ => by simp only [measure, h1, Acc.rank]; omega, nofun⟩
  case poolDrop h2 h3 =>
    exact ⟨fun _ => measure_lt_of_pool ((Pool.Step.of_step h3).measure_lt (drop_not_submit h2)), nofun⟩
  case worker h1 h2 =>
    exact ⟨fun _ => measure_lt_of_pool ((Pool.Step.of_step h2).measure_lt (owner_false_not_submit h1)), nofun⟩
  case accept h1 h2 =>
    exact ⟨fun _ => measure_lt_of_ranks rfl rfl (by simp +arith only [h1, h2, Acc.rank, List.length_cons]), nofun⟩
  -- the remaining steps move one program counter down its ranks: the caller's …
  case recvSignal h1 _ | storeFlag h1 | selfConnectRefused h1 _ | joinAccept h1 _ =>
    exact ⟨fun _ => measure_lt_of_ranks rfl rfl
      (Nat.add_lt_add_left (by rw [h1]; exact Nat.le_of_ble_eq_true rfl) _), nofun⟩
  -- … or the accept thread's
  case «break» h1 _ | skipErr h1 _ _ | toCond h1 _ _ | letIn h1 _ | deny h1 _ | exit h1 _ =>
    exact ⟨fun _ => measure_lt_of_ranks rfl rfl
      (Nat.add_lt_add_right (Nat.add_lt_add_left (by rw [h1]; exact Nat.le_of_ble_eq_true rfl) _) _), nofun⟩
  -- the wake-up connection costs the caller 20; `dropListener` empties the queue
  case selfConnectOk h1 _ | dropListener h1 =>
    refine ⟨fun _ => measure_lt_of_ranks rfl rfl ?_, nofun⟩
    simp +arith only [h1, Acc.rank, Caller.rank, List.length_append, List.length_singleton, List.length_nil]

def arrivals (ls : List Label) : Nat := (ls.filter Label.isArrive).length
def otherSteps (ls : List Label) : Nat := (ls.filter (fun l => !l.isArrive)).length
def accepts (ls : List Label) : Nat := (ls.filter Label.isAccept).length
def executes (ls : List Label) : Nat := (ls.filter Label.isExecute).length

theorem run_measure {c : Cfg} {ls : List Label} {s s' : State} (h : run c s ls = some s') :
    otherSteps ls + measure c s' ≤ measure c s + 20 * arrivals ls := by
  refine run_induction (motive := fun s ls => otherSteps ls + measure c s' ≤ measure c s + 20 * arrivals ls)
    (by simp [otherSteps, arrivals]) (fun {s l s1 ls} hl _ ih => ?_) h
  have m := measure_step (.of_step hl)
  cases hs : l.isArrive
  · have := m.1 hs; simp [otherSteps, arrivals, hs] at ih ⊢; omega
  · have := m.2 hs; simp [otherSteps, arrivals, hs] at ih ⊢; omega

/-- With the flag visible: the iteration in progress may finish, the next `accept` leads to `break`. -/
def acceptsLeft (s : State) : Nat := if s.flag then (if s.acc.willAccept then 1 else 0) else s.backlog.length + 1

theorem acceptsLeft_le (s : State) : acceptsLeft s ≤ if s.flag then 1 else s.backlog.length + 1 := by
  unfold acceptsLeft; split
  · split <;> decide
  · exact Nat.le_refl _

def lateArrival (s : State) (l : Label) : Nat := if l.isArrive && !s.flag then 1 else 0

theorem acceptsLeft_step {c : Cfg} {s s' : State} {l : Label} (hi : Inv c s) (st : Step c s l s') :
    (if l.isAccept then 1 else 0) + acceptsLeft s' ≤ acceptsLeft s + lateArrival s l := by
  cases st
  case selfConnectOk h1 _ =>
    -- the wake-up connection joins the queue when the queue no longer counts
    simp [acceptsLeft, lateArrival, Label.isAccept, Label.isArrive, hi.flag.mpr (.inl h1)]
  case storeFlag =>
    cases hf : s.flag <;> simp [acceptsLeft, lateArrival, Label.isAccept, Label.isArrive, hf]
    split <;> omega
  case accept h1 h2 =>
    cases hf : s.flag <;> simp [acceptsLeft, lateArrival, Label.isAccept, Label.isArrive, hf, h1, h2, Acc.willAccept]
    omega
  case «break» h1 h2 | skipErr h1 h2 _ | toCond h1 h2 _ =>
    simp [acceptsLeft, lateArrival, Label.isAccept, Label.isArrive, h1, h2, Acc.willAccept]
  case arrive | letIn h1 _ | deny h1 _ | execute h1 _ | poolStop h1 _ | dropListener h1 | exit h1 _ =>
    cases hf : s.flag <;> simp [acceptsLeft, lateArrival, Label.isAccept, Label.isArrive, *, Acc.willAccept]
  case signal | recvSignal | selfConnectRefused | joinAccept | poolDrop | worker =>
    exact Nat.le_of_eq (Nat.zero_add _)

def lateArrivals (c : Cfg) : State → List Label → Nat
  | _, [] => 0
  | s, l :: ls => lateArrival s l + match step c s l with
    | some s' => lateArrivals c s' ls
    | none => 0

theorem run_acceptsLeft {c : Cfg} {ls : List Label} {s s' : State} (hi : Inv c s) (h : run c s ls = some s') :
    accepts ls + acceptsLeft s' ≤ acceptsLeft s + lateArrivals c s ls := by
  refine run_induction (motive := fun s ls => Inv c s → accepts ls + acceptsLeft s' ≤ acceptsLeft s + lateArrivals c s ls)
    (fun _ => by simp [accepts, lateArrivals]) (fun {s l s1 ls} hl _ ih hi => ?_) h hi
  have ih := ih (inv_step hi (.of_step hl))
  have b := acceptsLeft_step hi (.of_step hl)
  simp only [lateArrivals, hl, accepts, ← List.countP_eq_length_filter, List.countP_cons] at ih ⊢
  omega

theorem flag_persists {c : Cfg} {s s' : State} {l : Label} (st : Step c s l s') (hf : s.flag = true) : s'.flag = true := by
  cases st <;> first | exact hf | rfl

theorem lateArrivals_zero {c : Cfg} : ∀ (ls : List Label) (s : State), s.flag = true → lateArrivals c s ls = 0
  | [], _, _ => rfl
  | l :: ls, s, hf => by
    simp only [lateArrivals, lateArrival, hf]
    cases hl : step c s l with
    | none => simp
    | some s1 => simp [lateArrivals_zero ls s1 (flag_persists (.of_step hl) hf)]

/-- With the flag visible only a connection already past the flag check can still be handed to the pool. -/
def executesLeft : Acc → Nat
  | .condition _ | .execute _ => 1
  | _ => 0

theorem executesLeft_step {c : Cfg} {s s' : State} {l : Label} (st : Step c s l s') (hf : s.flag = true) :
    (if l.isExecute then 1 else 0) + executesLeft s'.acc ≤ executesLeft s.acc := by
  cases st
  case arrive | signal | recvSignal | storeFlag | selfConnectOk | selfConnectRefused | joinAccept | poolDrop | worker =>
    exact Nat.le_of_eq (Nat.zero_add _)
  all_goals simp_all [executesLeft, Label.isExecute]

theorem run_executesLeft {c : Cfg} {ls : List Label} {s s' : State} (hf : s.flag = true) (h : run c s ls = some s') :
    executes ls + executesLeft s'.acc ≤ executesLeft s.acc := by
  refine run_induction (motive := fun s ls => s.flag = true → executes ls + executesLeft s'.acc ≤ executesLeft s.acc)
    (fun _ => by simp [executes]) (fun {s l s1 ls} hl _ ih hf => ?_) h hf
  have ih := ih (flag_persists (.of_step hl) hf)
  have b := executesLeft_step (.of_step hl) hf
  simp only [executes, ← List.countP_eq_length_filter, List.countP_cons] at ih ⊢
  omega

/-- No step but an arrival is enabled: the `Prop` form of the driver's test `terminalB` (`terminalB_iff`). The
signal has then been sent, or `signal` would be enabled. -/
def Terminal (c : Cfg) (s : State) : Prop := ∀ l : Label, l.isArrive = false → step c s l = none

/-- `execute` is a channel send on a started pool: enabled whenever the accept thread is at it. -/
theorem execute_enabled {c : Cfg} {s : State} {e : Entry} (hi : Inv c s) (ha : s.acc = .execute e) :
    (step c s .execute).isSome = true := by
  have hl := hi.acc.inLoop (by rw [ha]; rfl)
  simp [step, ha, Pool.step, hl.2.1, hl.2.2.1]

theorem recoveryProgress_not_owner {l : Pool.Label} (h : l.isRecoveryProgress = true) : isOwnerLabel l = false := by
  cases l <;> first | rfl | cases h

theorem dropStep_isDrop {l : Pool.Label} (h : l.isDropStep = true) : isDropLabel l = true := by
  cases l <;> first | rfl | cases h

/-- While the accept thread is inside `drop(thread_pool)` something can move: its own next step, or a step of
the recovery thread after which it can (C08 `drop_never_blocks`). -/
theorem dropPool_progress {c : Cfg} {s : State} (hi : Inv c s) (ha : s.acc = .dropPool) :
    ∃ l, l.isArrive = false ∧ (step c s l).isSome = true := by
  by_cases hc : s.pool.caller = .idle
  · have hl : s.pool.life ≠ .dropped := fun hd => by
      have := (Pool.InvCaller.of_reachable hi.pool).dropped.mp hd; simp [hc] at this
    exact ⟨.poolDrop .dropBegin, rfl, by simp [step, ha, isDropLabel, Pool.step, hc, hl]⟩
  by_cases hd : s.pool.caller = .done
  · exact ⟨.exit, rfl, by simp [step, ha, hd]⟩
  obtain ⟨ls, s₁, l, _, hrec, hrun, hdl, hen⟩ :=
    Pool.drop_never_blocks hi.pool (by cases h : s.pool.caller <;> simp_all)
  cases ls with
  | nil =>
    cases hrun
    obtain ⟨p, hp⟩ := Option.isSome_iff_exists.mp hen
    exact ⟨.poolDrop l, rfl, by simp [step, ha, dropStep_isDrop hdl, hp]⟩
  | cons l0 rest =>
    simp only [Pool.run, Pool.runWith] at hrun
    cases h0 : Pool.step c.pool s.pool l0 with
    | none => simp [h0] at hrun
    | some p =>
      have hr0 : l0.isRecoveryProgress = true := (List.all_eq_true.mp hrec) l0 List.mem_cons_self
      exact ⟨.worker l0, rfl, by simp [step, recoveryProgress_not_owner hr0, h0]⟩

/-- As long as `run` has not returned some thread can move. HYPOTHESIS `hc`: the connection condition returns. -/
theorem progress {c : Cfg} {s : State} (hc : ∀ e, c.condHangs e = false) (hi : Inv c s) (hr : s.caller ≠ .returned) :
    ∃ l, l.isArrive = false ∧ (step c s l).isSome = true := by
  cases hcal : s.caller with
  | returned => exact absurd hcal hr
  | waitSignal =>
    cases hs : s.signalSent
    · exact ⟨.signal, rfl, by simp [step, hs]⟩
    · exact ⟨.recvSignal, rfl, by simp [step, hs, hcal]⟩
  | storeFlag => exact ⟨.storeFlag, rfl, by simp [step, hcal]⟩
  | selfConnect => exact ⟨.selfConnect, rfl, by cases hlo : s.listenerOpen <;> simp [step, hcal, hlo]⟩
  | joinAccept =>
    -- the caller waits for the accept thread, which has seen the flag or will see it at its next check
    have hfl : s.flag = true := hi.flag.mpr (.inr (.inl hcal))
    have hat := hi.acc
    cases ha : s.acc <;> rw [ha] at hat
    case exited => exact ⟨.joinAccept, rfl, by simp [step, hcal, ha]⟩
    case accepting =>
      cases hb : s.backlog with
      | nil => have := hi.wakeLive hcal (by rw [ha]; rfl); simp [hb] at this
      | cons e b => exact ⟨.accept, rfl, by simp [step, ha, hb]⟩
    case checkFlag e => exact ⟨.checkFlag true, rfl, by simp [step, ha, hfl]⟩
    case condition e => exact ⟨.cond true, rfl, by simp [step, ha, hc e]⟩
    case execute e => exact ⟨.execute, rfl, execute_enabled hi ha⟩
    case poolStop => exact ⟨.poolStop, rfl, by simp [step, ha, Pool.step, hat.2.1, hat.2.2]⟩
    case dropListener => exact ⟨.dropListener, rfl, by simp [step, ha]⟩
    case dropPool => exact dropPool_progress hi ha

theorem terminal_final {c : Cfg} {s : State} (hc : ∀ e, c.condHangs e = false) (hi : Inv c s) (hT : Terminal c s) :
    s.caller = .returned ∧ s.acc = .exited := by
  have hr : s.caller = .returned := Decidable.byContradiction fun hr => by
    obtain ⟨l, hl, hs⟩ := progress hc hi hr
    rw [hT l hl] at hs; cases hs
  exact ⟨hr, hi.ret hr⟩

theorem terminal_pool {c : Cfg} {s : State} (hT : Terminal c s) (hd : s.pool.caller = .done) :
    Pool.Terminal c.pool s.pool := by
  intro l hl
  cases ho : isOwnerLabel l with
  | false =>
    have := hT (.worker l) rfl
    simp only [step, ho] at this
    cases hp : Pool.step c.pool s.pool l with
    | none => rfl
    | some p => simp [hp] at this
  | true =>
    -- every step of the pool's owner starts from a program point other than `done`
    cases l <;> cases ho <;> simp [Pool.step, hd]

theorem mem_candidates {c : Cfg} {s s' : State} {l : Label} (hi : Inv c s) (hl : l.isArrive = false)
    (h : step c s l = some s') : l ∈ candidates s := by
  have pool {pl p l} (h : Pool.step c.pool s.pool pl = some p) (hl : l ∈ [.poolDrop pl, .worker pl]) :
      l ∈ candidates s :=
    List.mem_append_right _ (List.mem_flatMap.mpr
      ⟨pl, Pool.mem_candidates (Pool.InvStruct.of_reachable hi.pool) (.of_step h), hl⟩)
  cases Step.of_step h with
  | arrive => cases hl
  | poolDrop _ _ h3 => exact pool h3 (.head _)
  | worker _ h2 => exact pool h2 (.tail _ (.head _))
  | _ => exact List.mem_append_left _ (by decide)

theorem candidates_not_arrive {s : State} {l : Label} (h : l ∈ candidates s) : l.isArrive = false := by
  rcases List.mem_append.mp h with h' | h'
  · clear h; revert l; decide
  · obtain ⟨pl, _, h'⟩ := List.mem_flatMap.mp h'
    simp only [List.mem_cons, List.not_mem_nil, or_false] at h'
    rcases h' with rfl | rfl <;> rfl

theorem terminalB_iff {c : Cfg} {s : State} (hi : Inv c s) : terminalB c s = true ↔ Terminal c s := by
  simp only [terminalB, enabled, List.isEmpty_iff, List.filter_eq_nil_iff]
  constructor
  · intro h l hl
    cases hs : step c s l with
    | none => rfl
    | some s' => exact absurd (by simp [hs]) (h l (mem_candidates hi hl hs))
  · intro h l hl
    simp [h l (candidates_not_arrive hl)]

/-- Before the flag is stored a step of the run is that store, or it is not the wake-up connection and the store
is still to come. -/
theorem early_step {c : Cfg} {s s' : State} {l : Label} (st : Step c s l s')
    (hc : s.caller = .waitSignal ∨ s.caller = .storeFlag) :
    evOf l = .flagStored ∨ (evOf l ≠ .wakeSent ∧ (s'.caller = .waitSignal ∨ s'.caller = .storeFlag)) := by
  cases st
  case storeFlag => exact .inl rfl
  case recvSignal => exact .inr ⟨nofun, .inr rfl⟩
  case selfConnectOk h1 _ | selfConnectRefused h1 _ | joinAccept h1 _ => simp [h1] at hc
  case poolDrop => exact .inr ⟨by simp only [evOf]; split <;> nofun, hc⟩
  all_goals exact .inr ⟨nofun, hc⟩

open ShutdownSpec in
theorem precedes_of_run {c : Cfg} {ls : List Label} {s s' : State}
    (hc : s.caller = .waitSignal ∨ s.caller = .storeFlag) (h : run c s ls = some s') :
    Precedes .flagStored .wakeSent (ls.map evOf) := by
  refine run_induction (motive := fun s ls => (s.caller = .waitSignal ∨ s.caller = .storeFlag) →
    Precedes .flagStored .wakeSent (ls.map evOf)) (fun _ => trivial) (fun hl _ ih hc => ?_) h hc
  exact (early_step (.of_step hl) hc).imp_right fun h => ⟨h.1, ih h.2⟩

end Humphrey.Shutdown
