import HumphreyModel.Proofs.Base64Decode

/-! The decoder loop against `Spec.Shape`. `GShape` is `Shape` cut the way the loop cuts its input, into groups of
four; what the loop accepts and what it returns are both read off a `GShape` derivation. -/
namespace Humphrey.Base64

/-- Well-formedness as the loop meets it, group by group, each symbol with its value (equivalent to
`Spec.Shape`, `gshape_iff_shape`). -/
inductive GShape : Bytes → Prop
  | nil : GShape []
  | full {a b c d : UInt8} {va vb vc vd : Nat} {rest : Bytes} : sextet a = some va → sextet b = some vb →
      sextet c = some vc → sextet d = some vd → GShape rest → GShape (a :: b :: c :: d :: rest)
  | pad1 {a b c : UInt8} {va vb vc : Nat} : sextet a = some va → sextet b = some vb → sextet c = some vc →
      GShape [a, b, c, 61]
  | pad2 {a b : UInt8} {va vb : Nat} : sextet a = some va → sextet b = some vb → GShape [a, b, 61, 61]

theorem GShape.shape {s : Bytes} (h : GShape s) : Spec.Shape s := by
  induction h with
  | nil => exact ⟨[], 0, rfl, by simp, by omega, rfl⟩
  | @full a b c d _ _ _ _ rest ha hb hc hd _ ih =>
    obtain ⟨body, n, rfl, hall, hn, hlen⟩ := ih
    refine ⟨a :: b :: c :: d :: body, n, rfl, ?_, hn, ?_⟩
    · simpa [sextet_mem ha, sextet_mem hb, sextet_mem hc, sextet_mem hd] using hall
    · simp only [List.length_cons] at hlen ⊢
      omega
  | pad1 ha hb hc =>
    exact ⟨[_, _, _], 1, rfl, by simp [sextet_mem ha, sextet_mem hb, sextet_mem hc], by omega, by simp⟩
  | pad2 ha hb => exact ⟨[_, _], 2, rfl, by simp [sextet_mem ha, sextet_mem hb], by omega, by simp⟩

theorem GShape.length_mod {s : Bytes} (h : GShape s) : s.length % 4 = 0 := by
  obtain ⟨_, _, _, _, _, h4⟩ := h.shape
  exact h4

theorem gshape_of_body : ∀ (body : Bytes) (n : Nat),
    (∀ c ∈ body, sextet c = some (Spec.table.idxOf c)) → n ≤ 2 →
    (body.length + n) % 4 = 0 → GShape (body ++ List.replicate n Spec.pad)
  | [], n, _, _, hlen => by
    obtain rfl : n = 0 := by simp at hlen; omega
    exact .nil
  | [_], n, _, _, hlen => by simp at hlen; omega
  | [a, b], n, hall, _, hlen => by
    obtain rfl : n = 2 := by simp at hlen; omega
    exact .pad2 (hall a (by simp)) (hall b (by simp))
  | [a, b, c], n, hall, _, hlen => by
    obtain rfl : n = 1 := by simp at hlen; omega
    exact .pad1 (hall a (by simp)) (hall b (by simp)) (hall c (by simp))
  | a :: b :: c :: d :: body, n, hall, hn, hlen =>
    .full (hall a (by simp)) (hall b (by simp)) (hall c (by simp)) (hall d (by simp))
      (gshape_of_body body n (fun x hx => hall x (by simp [hx])) hn (by simp at hlen; omega))

theorem gshape_iff_shape (s : Bytes) : GShape s ↔ Spec.Shape s := by
  constructor
  · exact GShape.shape
  · rintro ⟨body, n, rfl, hall, hn, hlen⟩
    exact gshape_of_body body n (fun c hc => mem_table_sextet (hall c hc)) hn (by simpa using hlen)

theorem drop_takeWhile_length (p : UInt8 → Bool) (s : Bytes) :
    s.drop (s.takeWhile p).length = s.dropWhile p := by
  have h := List.takeWhile_append_dropWhile (p := p) (l := s)
  conv => lhs; arg 2; rw [← h]
  exact List.drop_left

/-- The executable shape test with which the driver judges the implementation decides `Shape`. -/
theorem shapeB_iff_shape (s : Bytes) : Spec.shapeB s = true ↔ Spec.Shape s := by
  simp only [Spec.shapeB, Bool.and_eq_true, beq_iff_eq, List.all_eq_true, decide_eq_true_eq,
    List.contains_iff_mem]
  constructor
  · rintro ⟨⟨⟨hlen, hbody⟩, hn⟩, htail⟩
    refine ⟨_, _, ?_, hbody, hn, hlen⟩
    rw [← List.eq_replicate_iff.mpr ⟨rfl, htail⟩, drop_takeWhile_length, List.takeWhile_append_dropWhile]
  · rintro ⟨body, n, rfl, hall, hn, hlen⟩
    have htw : (body ++ List.replicate n Spec.pad).takeWhile (· != Spec.pad) = body := by
      rw [List.takeWhile_append_of_pos fun c hc => by simpa [Spec.pad] using mem_table_ne_pad (hall c hc)]
      simp
    rw [htw, List.drop_left, List.length_replicate]
    exact ⟨⟨⟨hlen, hall⟩, hn⟩, fun x hx => List.eq_of_mem_replicate hx⟩

/-- Completeness: on well-shaped text the loop returns the bit-level decoding. -/
theorem decodeGroups_of_gshape {s : Bytes} (h : GShape s) : decodeGroups s = .ok (Spec.decode s) := by
  induction h with
  | nil => rfl
  | full sa sb sc sd _ ih =>
    simp +decide only [decodeGroups, decodeGroup_full _ sa sb sc sd, slice1_beBytes, ih,
      spec_decode_full sa sb sc sd]
  | pad1 sa sb sc =>
    simp +decide only [decodeGroups, List.isEmpty_nil, decodeGroup_pad1 sa sb sc, slice1_beBytes,
      spec_decode_pad1 sa sb sc, List.append_nil]
  | pad2 sa sb =>
    simp +decide only [decodeGroups, List.isEmpty_nil, decodeGroup_pad2 sa sb, slice1_beBytes,
      spec_decode_pad2 sa sb, List.append_nil]

theorem decodeGroups_cons_ok {a b c d : UInt8} {rest out : Bytes}
    (h : decodeGroups (a :: b :: c :: d :: rest) = .ok out) :
    (∃ p, decodeGroup rest.isEmpty 0 [a, b, c, d] 0 = some p) ∧ ∃ r, decodeGroups rest = .ok r := by
  cases hg : decodeGroup rest.isEmpty 0 [a, b, c, d] 0 with
  | none => simp [decodeGroups, hg] at h
  | some p =>
  cases hs : slice1 (beBytes p.1) p.2 with
  | none => simp [decodeGroups, hg, hs] at h
  | some o =>
  cases hr : decodeGroups rest with
  | ok r => exact ⟨⟨p, rfl⟩, r, rfl⟩
  | err => simp [decodeGroups, hg, hs, hr] at h
  | panic => simp [decodeGroups, hg, hs, hr] at h

/-- Soundness: what the loop accepts (on a length that is a multiple of 4) is well shaped; what it
decodes to is then given by `decodeGroups_of_gshape`. -/
theorem gshape_of_ok : ∀ (s : Bytes) {out : Bytes}, s.length % 4 = 0 → decodeGroups s = .ok out → GShape s
  | [], _, _, _ => .nil
  | [_], _, hlen, _ | [_, _], _, hlen, _ | [_, _, _], _, hlen, _ => by simp at hlen
  | a :: b :: c :: d :: rest, out, hlen, h => by
    obtain ⟨⟨p, hg⟩, r, hr⟩ := decodeGroups_cons_ok h
    have gr := gshape_of_ok rest (by simp at hlen; omega) hr
    obtain ⟨va, vb, sa, sb, ⟨vc, vd, sc, sd⟩ | ⟨vc, sc, rfl, hl⟩ | ⟨rfl, rfl, hl⟩⟩ := decodeGroup_four hg
    · exact .full sa sb sc sd gr
    · obtain rfl : rest = [] := List.isEmpty_iff.mp hl
      exact .pad1 sa sb sc
    · obtain rfl : rest = [] := List.isEmpty_iff.mp hl
      exact .pad2 sa sb

/-- One chunk never reaches the out-of-order slice, whatever follows it (`k`): the inner loop breaks
at 4, or inside the chunk at 2 or later. -/
theorem chunk_ne_panic (l : Bool) (syms : Bytes) (hlen : syms.length ≤ 4) (k : Bytes → Outcome)
    (hk : ∀ out, k out ≠ .panic) :
    (match decodeGroup l 0 syms 0 with
      | none => Outcome.err
      | some (dec, br) =>
        match slice1 (beBytes dec) br with
        | none => .panic
        | some out => k out) ≠ .panic := by
  cases hg : decodeGroup l 0 syms 0 with
  | none => simp
  | some p =>
    have := decodeGroup_broken _ _ _ _ _ _ hg
    cases hs : slice1 (beBytes p.1) p.2 with
    | none => rw [slice1_beBytes _ (by omega) (by omega)] at hs; cases hs
    | some out => simpa [hs] using hk out

/-- The loop never panics, whatever the length of its input. (By pattern matching and not by
`fun_induction decodeGroups`: a module that uses the latter cannot be imported next to
`Props/C18Fast.lean`, both would generate the congruence lemmas of the function's matcher.) -/
theorem decodeGroups_ne_panic : ∀ s : Bytes, decodeGroups s ≠ .panic
  | [] => by simp [decodeGroups]
  | [_] | [_, _] | [_, _, _] => chunk_ne_panic _ _ (by simp) _ (fun _ => by simp)
  | _ :: _ :: _ :: _ :: rest => chunk_ne_panic _ _ (by simp) _ (fun out => by
      cases h : decodeGroups rest with
      | panic => exact absurd h (decodeGroups_ne_panic rest)
      | _ => simp)

end Humphrey.Base64
