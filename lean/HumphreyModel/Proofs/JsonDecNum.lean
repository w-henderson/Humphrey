import HumphreyModel.Proofs.JsonNum

/-!
For `decCodec_lawful`: decimal digits, the normal form `DecFin` of a `DecNum`, and what `decParse`
returns on the two shapes of text, `[-] int` and `[-] int . frac`, that `decShow` prints.
-/
namespace Humphrey.Json
open Humphrey.JsonSpec

/-- Normal form of a `DecNum` = the numbers `decParse` can return: the mantissa carries no trailing
decimal zero, and zero is `0e0` (with either sign: `-0` is a number of its own, as in `f64`). Named after the
argument `Fin` of `LawfulCodec`, for which it stands in `decCodec_lawful`; every `DecNum` denotes a finite number. -/
def DecFin (d : DecNum) : Prop := (d.mant = 0 → d.exp = 0) ∧ (d.mant ≠ 0 → d.mant % 10 ≠ 0)

instance (d : DecNum) : Decidable (DecFin d) := by unfold DecFin; exact inferInstance

theorem dec_digitsVal_eq (l : List Char) : digitsVal l = Nat.ofDigitChars 10 l 0 := by
  unfold digitsVal Nat.ofDigitChars
  congr 1
  funext a c
  rw [Nat.mul_comm]
  rfl

theorem dec_digitsVal_append (a b : List Char) :
    digitsVal (a ++ b) = 10 ^ b.length * digitsVal a + digitsVal b := by
  rw [dec_digitsVal_eq, dec_digitsVal_eq, dec_digitsVal_eq, Nat.ofDigitChars_append,
    Nat.ofDigitChars_eq_ofDigitChars_zero]

theorem dec_digitsVal_zeros (k : Nat) : digitsVal (List.replicate k '0') = 0 := by
  rw [dec_digitsVal_eq, Nat.ofDigitChars_replicate_zero]; simp

theorem dec_digitChar_digit19 : ∀ k : Fin 10, k.val ≠ 0 → Digit19 (Nat.digitChar k.val) := by
  unfold Digit19; decide

theorem dec_natDigits_if (n : Nat) :
    natDigits n = if n < 10 then [Nat.digitChar n] else natDigits (n / 10) ++ [Nat.digitChar (n % 10)] :=
  Nat.toDigits_eq_if (by decide)

theorem dec_natDigits_digits (n : Nat) : ∀ c ∈ natDigits n, Digit c := by
  intro c hc
  have h := Nat.isDigit_of_mem_toDigits (by decide) (by decide) hc
  simp only [Char.isDigit, Bool.and_eq_true, decide_eq_true_eq] at h
  exact ⟨h.1, h.2⟩

theorem dec_natDigits_head {n : Nat} (h : 0 < n) : ∃ c r, natDigits n = c :: r ∧ Digit19 c := by
  induction n using Nat.strongRecOn with
  | _ n ih =>
    rw [dec_natDigits_if]
    split
    · rename_i hn
      exact ⟨_, [], rfl, dec_digitChar_digit19 ⟨n, hn⟩ (by simp; omega)⟩
    · obtain ⟨c, r, hcr, hc⟩ := ih (n / 10) (by omega) (by omega)
      exact ⟨c, r ++ [Nat.digitChar (n % 10)], by rw [hcr]; rfl, hc⟩

theorem dec_digitsVal_natDigits (n : Nat) : digitsVal (natDigits n) = n := by
  rw [dec_digitsVal_eq]; exact Nat.ofDigitChars_ten_toDigits

theorem dec_natDigits_zero : natDigits 0 = ['0'] := by decide

theorem dec_zeros_digits (k : Nat) : ∀ c ∈ List.replicate k '0', Digit c := by
  intro c hc
  rw [List.mem_replicate] at hc
  rw [hc.2]; unfold Digit; decide

/-- a string of `n` decimal digits denotes a number below `10 ^ n` -/
theorem dec_ofDigitChars_bound (l : List Char) (hl : ∀ c ∈ l, Digit c) (init : Nat) :
    Nat.ofDigitChars 10 l init + 1 ≤ 10 ^ l.length * (init + 1) := by
  induction l generalizing init with
  | nil => simp
  | cons c t ih =>
    have hc := digit_toNat (hl c (by simp))
    have h0 : '0'.toNat = 48 := rfl
    rw [Nat.ofDigitChars_cons, h0]
    have := ih (fun x hx => hl x (by simp [hx])) (10 * init + (c.toNat - 48))
    have hle : 10 * init + (c.toNat - 48) + 1 ≤ 10 * (init + 1) := by omega
    have := Nat.mul_le_mul_left (10 ^ t.length) hle
    rw [List.length_cons, Nat.pow_succ, Nat.mul_assoc]
    omega
theorem dec_digitsVal_bound {l : List Char} (hl : ∀ c ∈ l, Digit c) : digitsVal l < 10 ^ l.length := by
  have := dec_ofDigitChars_bound l hl 0
  rw [dec_digitsVal_eq]
  omega

theorem dec_mem_takeWhile_digit {l : List Char} : ∀ c ∈ l.takeWhile isDigit, Digit c :=
  fun c hc => (isDigit_iff c).1 (List.all_eq_true.1 List.all_takeWhile c hc)

/-- stripping exactly `k` trailing zeros of `m * 10 ^ k` when `m` has none -/
theorem dec_normalize_strip (neg : Bool) {m : Nat} (hm : m % 10 ≠ 0) :
    ∀ (k f : Nat) (x : Int), k ≤ f →
      DecNum.normalize neg (f + 1) (m * 10 ^ k) x = ⟨neg, m, x + k⟩ := by
  have hm0 : m ≠ 0 := by intro h; subst h; exact hm rfl
  intro k
  induction k with
  | zero =>
    intro f x _
    rw [Nat.pow_zero, Nat.mul_one, DecNum.normalize, if_neg hm0, if_neg hm]
    exact congrArg (DecNum.mk neg m) (Int.add_zero x).symm
  | succ k ih =>
    intro f x hf
    cases f with
    | zero => cases hf
    | succ f =>
      have e : m * 10 ^ (k + 1) = m * 10 ^ k * 10 := by rw [Nat.pow_succ, Nat.mul_assoc]
      rw [DecNum.normalize, e, if_neg (Nat.mul_ne_zero (Nat.mul_ne_zero hm0 (Nat.ne_of_gt (Nat.pow_pos (by decide)))) (by decide)),
        if_pos (Nat.mul_mod_left _ _), Nat.mul_div_cancel _ (by decide), ih f (x + 1) (Nat.le_of_succ_le_succ hf)]
      exact congrArg (DecNum.mk neg m) (by omega)

theorem dec_normalize_id (neg : Bool) {m : Nat} (hm : m % 10 ≠ 0) (f : Nat) (x : Int) :
    DecNum.normalize neg (f + 1) m x = ⟨neg, m, x⟩ := by
  have := dec_normalize_strip neg hm 0 f x (Nat.zero_le _)
  simpa using this

/-- with enough fuel the result is in normal form -/
theorem dec_normalize_fin (neg : Bool) : ∀ (f m : Nat) (e : Int), m < 10 ^ f →
    DecFin (DecNum.normalize neg (f + 1) m e) := by
  intro f
  induction f with
  | zero =>
    intro m e hm
    have : m = 0 := by simpa using hm
    subst this
    simp [DecNum.normalize, DecFin]
  | succ f ih =>
    intro m e hm
    rw [DecNum.normalize]
    split
    · simp [DecFin]
    · rename_i hm0
      split
      · apply ih
        rw [Nat.pow_succ] at hm
        omega
      · rename_i hm10
        exact ⟨fun h => absurd h hm0, fun _ => hm10⟩

/-- the optional sign as printed by `decShow` -/
def dec_sign (neg : Bool) : List Char := if neg then ['-'] else []

theorem dec_parse_int (neg : Bool) {c : Char} {ip : List Char} (hc : Digit c) (hip : ∀ d ∈ ip, Digit d)
    (hlex : isNumberLexeme (dec_sign neg ++ c :: ip) = true) :
    decParse (dec_sign neg ++ c :: ip) =
      some (DecNum.normalize neg (ip.length + 1 + 1) (digitsVal (c :: ip)) 0) := by
  have hcm := digit_ne_minus hc
  have htd := takeWhile_digits (ds := c :: ip) (rest := [])
    (by intro d hd; rcases List.mem_cons.1 hd with rfl | hd; exact hc; exact hip d hd) noDigitHead_nil
  simp only [List.append_nil] at htd
  unfold decParse
  rw [hlex]
  cases neg
  · simp [dec_sign, hcm, htd.1, htd.2]
  · simp [dec_sign, htd.1, htd.2]

theorem dec_parse_frac (neg : Bool) {c : Char} {ip fp : List Char} (hc : Digit c) (hip : ∀ d ∈ ip, Digit d)
    (hfp : ∀ d ∈ fp, Digit d)
    (hlex : isNumberLexeme (dec_sign neg ++ c :: (ip ++ '.' :: fp)) = true) :
    decParse (dec_sign neg ++ c :: (ip ++ '.' :: fp)) =
      some (DecNum.normalize neg (ip.length + 1 + fp.length + 1) (digitsVal (c :: (ip ++ fp)))
        (0 - (fp.length : Int))) := by
  have hcm := digit_ne_minus hc
  have htd := takeWhile_digits (ds := c :: ip) (rest := '.' :: fp)
    (by intro d hd; rcases List.mem_cons.1 hd with rfl | hd; exact hc; exact hip d hd)
    (noDigitHead_cons (by decide))
  have htf := takeWhile_digits (ds := fp) (rest := []) hfp noDigitHead_nil
  simp only [List.append_nil, List.cons_append] at htd htf
  unfold decParse
  rw [hlex]
  cases neg
  · simp [dec_sign, hcm, htd.1, htd.2, htf.1, htf.2]
  · simp [dec_sign, htd.1, htd.2, htf.1, htf.2]

end Humphrey.Json
