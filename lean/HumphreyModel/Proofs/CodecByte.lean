namespace Humphrey

/-- A decidable fact about every byte follows from its 16 × 16 instances by hex digit (`decide`
evaluates the nested `all` within the default recursion depth; one `all` over 256 does not). -/
theorem forall_byte {p : UInt8 → Bool}
    (h : (List.range 16).all (fun hi => (List.range 16).all fun lo => p (UInt8.ofNat (16 * hi + lo))) = true)
    (c : UInt8) : p c = true := by
  have := List.all_eq_true.mp (List.all_eq_true.mp h (c.toNat / 16)
    (List.mem_range.mpr (by have := c.toNat_lt; omega))) (c.toNat % 16) (List.mem_range.mpr (by omega))
  rwa [Nat.div_add_mod, UInt8.ofNat_toNat] at this

end Humphrey
