import HumphreyModel.Model.Conn
/-
Lookup in header lists that were appended to or completed by `addIfAbsent`.
-/
namespace Humphrey.Http
open Humphrey Humphrey.Bytes

theorem get_append (a b : Headers) (m : HName) : (a ++ b).get m = (a.get m).or (b.get m) := by
  simp only [Headers.get, List.find?_append]
  cases List.find? (fun h => decide (h.name = m)) a <;> simp

theorem get_cons (h : Header) (hs : Headers) (m : HName) :
    Headers.get (h :: hs) m = if h.name = m then some h.value else hs.get m := by
  by_cases e : h.name = m <;> simp [Headers.get, e]

theorem get_singleton (n m : HName) (v : Bytes) :
    Headers.get [⟨n, v⟩] m = if n = m then some v else none := by
  rw [get_cons]; rfl

theorem get_addIfAbsent (hs : Headers) (n m : HName) (v : Bytes) :
    (addIfAbsent hs n v).get m = (hs.get m).or (if n = m then some v else none) := by
  unfold addIfAbsent
  split
  · rename_i h
    by_cases hn : n = m
    · subst hn
      cases hg : hs.get n with
      | none => simp [hg] at h
      | some x => simp
    · simp [hn]
  · rw [get_append, get_singleton]

theorem get_addIfAbsent_some (hs : Headers) (n m : HName) (v x : Bytes) (h : hs.get m = some x) :
    (addIfAbsent hs n v).get m = some x := by
  rw [get_addIfAbsent, h]; rfl

theorem mem_addIfAbsent (hs : Headers) (n : HName) (v : Bytes) (h : Header) :
    h ∈ addIfAbsent hs n v → h ∈ hs ∨ h = ⟨n, v⟩ := by
  unfold addIfAbsent
  split
  · exact fun hh => .inl hh
  · intro hh; simpa using hh

theorem get_some_mem {hs : Headers} {n : HName} {c : Bytes} (h : hs.get n = some c) :
    ∃ hd ∈ hs, hd.value = c := by
  simp only [Headers.get, Option.map_eq_some_iff] at h
  obtain ⟨hd, hf, hv⟩ := h
  exact ⟨hd, List.mem_of_find?_eq_some hf, hv⟩

theorem isSome_get_addIfAbsent_self (hs : Headers) (n : HName) (v : Bytes) :
    ((addIfAbsent hs n v).get n).isSome = true := by
  rw [get_addIfAbsent, if_pos rfl]
  cases hs.get n <;> rfl

theorem isSome_get_addIfAbsent {hs : Headers} {m : HName} (n : HName) (v : Bytes)
    (h : (hs.get m).isSome = true) : ((addIfAbsent hs n v).get m).isSome = true := by
  rw [get_addIfAbsent]
  cases hg : hs.get m with
  | none => rw [hg] at h; cases h
  | some x => rfl

end Humphrey.Http
