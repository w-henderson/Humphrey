import HumphreyModel.Proofs.ConfStep

/-! The `parse_section` loop reads a rendered tree back (tree-level round trip). -/
namespace Humphrey.Conf
open Humphrey.Glob

section
variable (inc : Str → Str → Nat → Nat → Res ConfError (List Node)) (file : Str) (base : Nat)

/-- Reading the filler lines of a decorated line leaves its own line, which cleans up to the
content. -/
theorem go_mkLines {d : Deco} (hd : d.ok) {content : Str} (hno : ∀ x ∈ content, x ≠ '#')
    (ht : tight content) (rest : List Str) (ln : Nat) (stack : List Frame) (cur : List Node) :
    ∃ raw, cleanUp raw = content ∧
      goLines inc file base (mkLines d content ++ rest) ln stack cur =
        goLines inc file base (raw :: rest) (ln + d.pre.length) stack cur := by
  refine ⟨decoLine d content, cleanUp_decoLine hd hno ht, ?_⟩
  rw [mkLines_eq, List.append_assoc, go_fillers inc file base d.pre (fun f hf => (hd.1 f hf).1)]
  rfl

theorem kvContent_ok {d : Deco} (hd : d.ok) {key value : Str} (hkey : ContentOk key) (hv : ValueOk value) :
    ContentOk (kvContent d key value) :=
  hkey.spaced hv.toContentOk hd.2.2.1

theorem go_kv_line {d : Deco} (hd : d.ok) {key value : Str} {node : Node} (hkey : okKey key)
    (hv : ValueOk value) (ht : typeValue key value = .ok node)
    (rest : List Str) (ln : Nat) (stack : List Frame) (cur : List Node) :
    goLines inc file base (mkLines d (kvContent d key value) ++ rest) ln stack cur =
      goLines inc file base rest (ln + (mkLines d (kvContent d key value)).length) stack (node :: cur) := by
  have hco := kvContent_ok hd (okKey_content hkey) hv
  obtain ⟨raw, hc, hgo⟩ := go_mkLines inc file base hd hco.noHash hco.tight rest ln stack cur
  rw [hgo, go_kv_split inc file base hc ⟨hkey.1, hkey.2.1⟩ hd.2.2.1 hv.tight hv.last, if_pos hkey.2.2, ht,
    mkLines_length, Nat.add_assoc]

theorem go_header_line {d : Deco} (hd : d.ok) {hdr name : Str} {k : Kind}
    (hcl : classify hdr = .ok (k, name)) (hh : tight hdr) (hno : ∀ x ∈ hdr, x ≠ '#')
    (rest : List Str) (ln : Nat) (stack : List Frame) (cur : List Node)
    (hdep : base + stack.length + 1 ≤ maxDepth) :
    goLines inc file base (mkLines d (hdr ++ d.gap ++ ['{']) ++ rest) ln stack cur =
      goLines inc file base rest (ln + (d.pre.length + 1)) ((k, name, cur) :: stack) [] := by
  have hgap := hd.2.2.2.1
  obtain ⟨raw, hc, hgo⟩ := go_mkLines inc file base hd
    (header_all (fun _ hx => (blank_clean hx).1) (by decide) hgap hno) (header_tight hh d.gap)
    rest ln stack cur
  rw [hgo, go_open inc file base hc hgap hh hcl _ _ _ _ hdep, Nat.add_assoc]

theorem go_close_pop_line {d : Deco} (hd : d.ok) (k : Kind) (name : Str) (pcur : List Node)
    (rest : List Str) (ln : Nat) (stack : List Frame) (cur : List Node) :
    goLines inc file base (mkLines d ['}'] ++ rest) ln ((k, name, pcur) :: stack) cur =
      goLines inc file base rest (ln + (d.pre.length + 1)) stack (mkNode k name cur.reverse :: pcur) := by
  obtain ⟨raw, hc, hgo⟩ := go_mkLines inc file base hd contentOk_brace.noHash tight_brace
    rest ln ((k, name, pcur) :: stack) cur
  rw [hgo, go_close_pop inc file base hc, Nat.add_assoc]

theorem go_close_done_line {d : Deco} (hd : d.ok) (ln : Nat) (cur : List Node) :
    goLines inc file base (mkLines d ['}']) ln [] cur = .ok cur.reverse := by
  obtain ⟨raw, hc, hgo⟩ := go_mkLines inc file base hd contentOk_brace.noHash tight_brace [] ln [] cur
  rw [List.append_nil] at hgo
  rw [hgo, go_close_done inc file base hc]

/-- A section-like node: header line, body, closing line. `ih` is the statement for the body. -/
theorem go_sectionLike {d dc : Deco} (hd : d.ok) (hdc : dc.ok) {hdr name : Str} {k : Kind}
    (hh : HdrOk hdr k name) (body : List Str) (cs : List Node) (depth : Nat)
    (ih : ∀ rest ln stack cur, base + stack.length + depth ≤ maxDepth →
      goLines inc file base (body ++ rest) ln stack cur =
        goLines inc file base rest (ln + body.length) stack (cs.reverse ++ cur))
    (rest : List Str) (ln : Nat) (stack : List Frame) (cur : List Node)
    (hdep : base + stack.length + (depth + 1) ≤ maxDepth) :
    goLines inc file base (mkLines d (hdr ++ d.gap ++ ['{']) ++ body ++ mkLines dc ['}'] ++ rest) ln stack cur =
      goLines inc file base rest
        (ln + (mkLines d (hdr ++ d.gap ++ ['{']) ++ body ++ mkLines dc ['}']).length) stack
        (mkNode k name cs :: cur) := by
  rw [List.append_assoc, List.append_assoc,
    go_header_line inc file base hd hh.classify hh.tight hh.noHash _ _ _ _ (by omega),
    ih _ _ _ _ (by simp only [List.length_cons]; omega), go_close_pop_line inc file base hdc]
  simp only [List.append_nil, List.reverse_reverse, List.length_append, mkLines_length]
  congr 1
  omega

end

theorem renderNode_section (lay : Layout) (path : List Nat) (name : Str) (cs : List Node) :
    renderNode lay path (.section name cs) =
      mkLines (lay.line path) (name ++ (lay.line path).gap ++ ['{']) ++ renderNodes lay path 0 cs ++
        mkLines (lay.close path) ['}'] := rfl

theorem renderNode_host (lay : Layout) (path : List Nat) (name : Str) (cs : List Node) :
    renderNode lay path (.host name cs) =
      mkLines (lay.line path) ("host".toList ++ ' ' :: (lay.line path).sep ++ quoted name ++ (lay.line path).gap ++ ['{']) ++
        renderNodes lay path 0 cs ++ mkLines (lay.close path) ['}'] := rfl

theorem renderNode_route (lay : Layout) (path : List Nat) (name : Str) (cs : List Node) :
    renderNode lay path (.route name cs) =
      mkLines (lay.line path) ("route".toList ++ ' ' :: (lay.line path).sep ++ name ++ (lay.line path).gap ++ ['{']) ++
        renderNodes lay path 0 cs ++ mkLines (lay.close path) ['}'] := rfl

mutual
theorem go_renderNode (inc : Str → Str → Nat → Nat → Res ConfError (List Node)) (file : Str) (base : Nat)
    (lay : Layout) (hl : lay.ok) (n : Node) (hwf : WFNode n) (path : List Nat)
    (rest : List Str) (ln : Nat) (stack : List Frame) (cur : List Node)
    (hdep : base + stack.length + nodeDepth n ≤ maxDepth) :
    goLines inc file base (renderNode lay path n ++ rest) ln stack cur =
      goLines inc file base rest (ln + (renderNode lay path n).length) stack (n :: cur) := by
  cases n with
  | number k v =>
    obtain ⟨hv, ht⟩ := number_value (k := k) (lay.line path).unit hwf.2
    simp only [renderNode]
    exact go_kv_line inc file base (hl path).1 hwf.1 hv ht rest ln stack cur
  | boolean k v =>
    simp only [renderNode]
    exact go_kv_line inc file base (hl path).1 hwf.1 (valueOk_bool hwf.2) (typeValue_bool hwf.2) rest ln stack cur
  | string k v =>
    simp only [renderNode]
    exact go_kv_line inc file base (hl path).1 hwf.1 (valueOk_quoted hwf.2) (typeValue_string k v) rest ln stack cur
  | «section» name cs =>
    rw [renderNode_section]
    exact go_sectionLike inc file base (hl path).1 (hl path).2 (hdrOk_section hwf.1) (renderNodes lay path 0 cs) cs
      (nodesDepth cs) (go_renderNodes inc file base lay hl cs hwf.2 path 0) rest ln stack cur hdep
  | host name cs =>
    rw [renderNode_host]
    exact go_sectionLike inc file base (hl path).1 (hl path).2 (hdrOk_host (hl path).1.2.2.1 hwf.1) (renderNodes lay path 0 cs) cs
      (nodesDepth cs) (go_renderNodes inc file base lay hl cs hwf.2 path 0) rest ln stack cur hdep
  | route name cs =>
    rw [renderNode_route]
    exact go_sectionLike inc file base (hl path).1 (hl path).2 (hdrOk_route (hl path).1.2.2.1 hwf.1) (renderNodes lay path 0 cs) cs
      (nodesDepth cs) (go_renderNodes inc file base lay hl cs hwf.2 path 0) rest ln stack cur hdep
theorem go_renderNodes (inc : Str → Str → Nat → Nat → Res ConfError (List Node)) (file : Str) (base : Nat)
    (lay : Layout) (hl : lay.ok) (ns : List Node) (hwf : WFNodes ns) (path : List Nat) (i : Nat)
    (rest : List Str) (ln : Nat) (stack : List Frame) (cur : List Node)
    (hdep : base + stack.length + nodesDepth ns ≤ maxDepth) :
    goLines inc file base (renderNodes lay path i ns ++ rest) ln stack cur =
      goLines inc file base rest (ln + (renderNodes lay path i ns).length) stack (ns.reverse ++ cur) := by
  cases ns with
  | nil => rfl
  | cons n ns =>
    simp only [WFNodes] at hwf
    simp only [nodesDepth] at hdep
    simp only [renderNodes, List.append_assoc]
    rw [go_renderNode inc file base lay hl n hwf.1 (i :: path) _ ln stack cur (by omega)]
    rw [go_renderNodes inc file base lay hl ns hwf.2 path (i + 1) rest _ stack (n :: cur) (by omega)]
    simp only [List.length_append, List.reverse_cons, List.append_assoc, List.singleton_append]
    congr 1
    omega
end

end Humphrey.Conf
