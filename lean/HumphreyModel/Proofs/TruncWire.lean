import HumphreyModel.Proofs.TruncCut
import HumphreyModel.Proofs.HttpMsgParse
/-
The response as the serialiser writes it, seen as head ++ body ++ pad: the head (status line, field
lines, blank line), the body, and the surplus CRLF the serialiser appends after a non-empty body.
The head of a serialised response is a head in the sense of `HeadOf`, which is how the cut theorems
of `Proofs/TruncCut.lean` reach the serialiser's output.
-/
namespace Humphrey.Http
open Humphrey Humphrey.Bytes Humphrey.IO

/-- Status line `line0` (without its CRLF), field lines, blank line. -/
def truncHead (line0 : Bytes) (hs : Headers) : Bytes :=
  line0 ++ 13 :: 10 :: (hs.flatMap (fun h => headerLine h ++ [13, 10]) ++ [13, 10])

/-- The head of the serialised response: everything up to and including the blank line. -/
def headBytes (r : Response) : Bytes := truncHead (statusLine r) r.headers.sorted

/-- The message as framed: head and body, WITHOUT the serialiser's surplus CRLF. -/
def wireBytes (r : Response) : Bytes := headBytes r ++ r.body

theorem serialize_eq_wire_pad (r : Response) : serializeResponse r = wireBytes r ++ pad r := by
  rw [serialize_shape]
  by_cases hb : r.body = [] <;> simp [wireBytes, headBytes, truncHead, bodyPart, pad, hb]

theorem headBytes_eq (r : Response) : headBytes r = serializeResponse { r with body := [] } := by
  rw [serialize_shape]
  simp [headBytes, truncHead, statusLine, bodyPart]

theorem wireBytes_length (r : Response) :
    (wireBytes r).length = (serializeResponse r).length - (pad r).length := by
  rw [serialize_eq_wire_pad]; simp

theorem headOf_serialize (r : Response) (h : r.WF) (hp : r.ParseBack) (t : Bytes) :
    HeadOf (headBytes r ++ t) r.version r.status r.headers.sorted t := by
  obtain ⟨s1, _, _, _⟩ := statusLine_facts r h
  have e : headBytes r ++ t = statusLine r ++
      13 :: 10 :: (r.headers.sorted.flatMap (fun h => headerLine h ++ [13, 10]) ++ 13 :: 10 :: t) := by
    simp [headBytes, truncHead]
  have hr := flatReadUntil_line (statusLine r)
    (r.headers.sorted.flatMap (fun h => headerLine h ++ [13, 10]) ++ 13 :: 10 :: t)
    (fun b hb => (s1 b hb).2)
  unfold HeadOf
  rw [e, LF, hr]
  exact ⟨parseStatusLine_serialize r h hp,
    parseRespHeaders_serialize r.headers.sorted
      (fun x hx => h.headers x (mem_sorted.mp hx))
      (fun x hx => hp.line_utf8 x (mem_sorted.mp hx))
      (fun x hx => hp.value_trim x (mem_sorted.mp hx)) t _
      (by have := length_le_flatMap r.headers.sorted
          simp only [List.length_append]; omega) []⟩

/-- From the last body byte on (the cut falls in the surplus CRLF, or nowhere) a Content-Length
framed response is complete and parses. -/
theorem parse_take_serialize (r : Response) (h : r.WF) (hp : r.ParseBack)
    (hcl : r.headers.get hContentLength = some (natToBytes r.body.length))
    {n : Nat} (hn : (wireBytes r).length ≤ n) :
    parseResponse flatSource ((serializeResponse r).take n) =
      .ok (⟨r.version, r.status, r.headers.sorted, r.body⟩, (pad r).take (n - (wireBytes r).length)) := by
  rw [serialize_eq_wire_pad, List.take_append, List.take_of_length_le hn]
  generalize (pad r).take (n - (wireBytes r).length) = t
  rw [wireBytes, List.append_assoc, (headOf_serialize r h hp _).parse]
  simp [parseBody, sorted_get, hp.not_chunked, hcl, parseUsize_natToBytes _ hp.body_len, flatSource,
    flatReadExact]

end Humphrey.Http
