import HumphreyModel.Proofs.ConfModelMap
import HumphreyModel.Proofs.ConfStr
import HumphreyModel.Proofs.ConfCfg

/-!
`parse_route` / `parse_host` read the route and host sections of `Cfg.toTree` back.
-/
namespace Humphrey.Conf

theorem cfgrt_splitAll_joinComma (ps : List Str) (hne : ps ≠ []) (h : ∀ p ∈ ps, ∀ x ∈ p, x ≠ ',') :
    splitAll ',' (joinComma ps) = ps := by
  fun_induction joinComma ps
  case case1 => exact absurd rfl hne
  case case2 a => exact splitAll_none (h a List.mem_cons_self)
  case case3 a b r ih =>
    rw [splitAll_append (h a List.mem_cons_self), ih (by simp) fun q hq => h q (List.mem_cons_of_mem _ hq)]

theorem cfgrt_joinComma_chars {ps : List Str} {P : Char → Prop} (hc : P ',') (h : ∀ p ∈ ps, ∀ x ∈ p, P x) :
    ∀ x ∈ joinComma ps, P x := by
  fun_induction joinComma ps
  case case1 => nofun
  case case2 a => exact h a List.mem_cons_self
  case case3 a b r ih =>
    simp only [List.forall_mem_append, List.forall_mem_cons]
    exact ⟨h a List.mem_cons_self, hc, ih fun q hq => h q (List.mem_cons_of_mem _ hq)⟩

theorem cfgrt_joinComma_tight {ps : List Str} (hne : ps ≠ []) (h : ∀ p ∈ ps, tight p) : tight (joinComma ps) := by
  fun_induction joinComma ps
  case case1 => exact absurd rfl hne
  case case2 a => exact h a List.mem_cons_self
  case case3 a b r ih =>
    have := tight_append (h a List.mem_cons_self) (ih (by simp) fun q hq => h q (List.mem_cons_of_mem _ hq)) [',']
    simpa using this

theorem cfgrt_getOwned_ws (o : Option Str) (m : Map) (hm : Map.get m wsKey = none) :
    getOwned (cfgrt_optB wsKey (o.map (Node.string wsKey)) ++ m) "websocket".toList = o := by
  have e : "websocket".toList = wsKey := String.toList_ofList
  rw [e, getOwned, cfgrt_get_optB_eq]
  cases o with
  | none => rw [Option.map_none, hm]; rfl
  | some w => rfl

/-- Whatever the target and whichever optional keys are written, the look-ups of `parse_route` in the
bindings of a route section compute the route's configuration. -/
theorem cfgrt_parseRouteOne (r : RouteCfg) (h : r.WF) (p : Str) :
    parseRouteOne p (flattenList [] (r.target.nodes ++ strKey wsKey r.websocket) []) = .ok (r.config p) := by
  obtain ⟨pats, target, ws⟩ := r
  -- with the key literals spelled out, every `conf.get` below is a look-up in an explicit list of at most
  -- three bindings and evaluates; only the proxy targets need a lemma (`split(',')` undoes `joinComma`)
  unfold parseRouteOne
  repeat rw [String.toList_ofList]
  cases target with
  | proxy ts mode =>
    have hsplit := cfgrt_splitAll_joinComma ts h.target.1 fun t ht x hx => (h.target.2 t ht x hx).1
    have e : RouteCfg.config ⟨pats, .proxy ts mode, ws⟩ p =
        ⟨.proxy, p, none, some (splitAll ',' (joinComma ts), mode.getD .roundRobin), ws⟩ := by
      rw [hsplit]; rfl
    rw [e]
    cases ws <;> cases mode with
    | none => rfl
    | some md => cases md <;> rfl
  | websocketOnly =>
    cases ws with
    | none => cases h.wsOnly rfl
    | some w => rfl
  | _ => cases ws <;> rfl

theorem cfgrt_parseRoutePats (r : RouteCfg) (h : r.WF) (ps : List Str) (hps : ∀ p ∈ ps, tight p) :
    parseRoutePats ps (flattenList [] (r.target.nodes ++ strKey wsKey r.websocket) []) =
      .ok (ps.map r.config) := by
  induction ps with
  | nil => rfl
  | cons p ps ih =>
    simp only [parseRoutePats, trim_tight (Or.inr (hps p List.mem_cons_self)), cfgrt_parseRouteOne r h,
      ih fun q hq => hps q (List.mem_cons_of_mem _ hq), List.map_cons]

theorem cfgrt_parseRoute (r : RouteCfg) (h : r.WF) :
    parseRoute (joinComma r.patterns) (flattenList [] (r.target.nodes ++ strKey wsKey r.websocket) []) =
      .ok r.configs := by
  unfold parseRoute
  rw [cfgrt_splitAll_joinComma _ h.nonempty fun p hp x hx => ((h.patterns p hp).2 x hx).1]
  exact cfgrt_parseRoutePats r h _ fun p hp => (h.patterns p hp).1

theorem cfgrt_parseRoutes_routeNodes (rs : List RouteCfg) (h : ∀ r ∈ rs, r.WF) :
    parseRoutes (routeNodes rs) = .ok (routeConfigs rs) := by
  induction rs with
  | nil => rfl
  | cons r rs ih =>
    simp only [routeNodes, RouteCfg.toNode, parseRoutes, cfgrt_parseRoute r (h r (by simp)),
      ih (fun q hq => h q (by simp [hq])), routeConfigs]

/-- The two loops of `from_tree` over the route and host sections of a model. -/
theorem cfgrt_parse_items (is : List Item) (h : ∀ i ∈ is, i.WF) :
    parseRoutes (itemNodes is) = .ok (defaultRoutes is) ∧ parseHosts (itemNodes is) = .ok (hostConfigs is) := by
  induction is with
  | nil => exact ⟨rfl, rfl⟩
  | cons i is ih =>
    obtain ⟨ihr, ihh⟩ := ih fun q hq => h q (List.mem_cons_of_mem _ hq)
    cases i with
    | route r =>
      have hr : r.WF := h (.route r) List.mem_cons_self
      simp only [itemNodes, Item.toNode, RouteCfg.toNode, parseRoutes, parseHosts, cfgrt_parseRoute r hr, ihr, ihh,
        defaultRoutes, hostConfigs, and_self]
    | host hc =>
      have hh : hc.WF := h (.host hc) List.mem_cons_self
      simp only [itemNodes, Item.toNode, HostCfg.toNode, parseRoutes, parseHosts,
        cfgrt_parseRoutes_routeNodes _ hh.routes, ihr, ihh, defaultRoutes, hostConfigs, HostCfg.config, and_self]

/-! ### the scalar part of the `server` section holds no routes or hosts -/

/-- Scalar or plain section. -/
def cfgrt_plain : Node → Bool
  | .number _ _ => true
  | .boolean _ _ => true
  | .string _ _ => true
  | .section _ _ => true
  | _ => false

theorem cfgrt_skip_plain (a b : List Node) (h : ∀ n ∈ a, cfgrt_plain n = true) :
    parseRoutes (a ++ b) = parseRoutes b ∧ parseHosts (a ++ b) = parseHosts b := by
  induction a with
  | nil => exact ⟨rfl, rfl⟩
  | cons n a ih =>
    have ih' := ih fun q hq => h q (List.mem_cons_of_mem _ hq)
    have hn := h n List.mem_cons_self
    cases n with
    | route _ _ => cases hn
    | host _ _ => cases hn
    | _ => exact ih'

theorem cfgrt_plain_strKey (key : Str) (o : Option Str) : ∀ n ∈ strKey key o, cfgrt_plain n = true := by
  cases o with
  | none => nofun
  | some _ => simp only [strKey, List.mem_singleton, forall_eq, cfgrt_plain]

theorem cfgrt_plain_numKey (key : Str) (o : Option Nat) : ∀ n ∈ numKey key o, cfgrt_plain n = true := by
  cases o with
  | none => nofun
  | some _ => simp only [numKey, List.mem_singleton, forall_eq, cfgrt_plain]

theorem cfgrt_plain_boolKey (key : Str) (o : Option Bool) : ∀ n ∈ boolKey key o, cfgrt_plain n = true := by
  cases o with
  | none => nofun
  | some _ => simp only [boolKey, List.mem_singleton, forall_eq, cfgrt_plain]

theorem cfgrt_plain_optSection (name : Str) (cs : List Node) :
    ∀ n ∈ optSection name cs, cfgrt_plain n = true := by
  unfold optSection
  split
  · nofun
  · simp only [List.mem_singleton, forall_eq, cfgrt_plain]

theorem cfgrt_plain_scalarNodes (c : Cfg) : ∀ n ∈ c.scalarNodes, cfgrt_plain n = true := by
  simp only [Cfg.scalarNodes, List.forall_mem_append]
  exact ⟨⟨⟨⟨⟨⟨⟨cfgrt_plain_strKey _ _, cfgrt_plain_numKey _ _⟩, cfgrt_plain_numKey _ _⟩, cfgrt_plain_strKey _ _⟩,
    cfgrt_plain_numKey _ _⟩, cfgrt_plain_optSection _ _⟩, cfgrt_plain_optSection _ _⟩, cfgrt_plain_optSection _ _⟩

theorem cfgrt_parse_children (c : Cfg) (h : ∀ i ∈ c.items, i.WF) :
    parseRoutes c.toTree.sectionChildren = .ok (defaultRoutes c.items) ∧
      parseHosts c.toTree.sectionChildren = .ok (hostConfigs c.items) := by
  obtain ⟨hr, hh⟩ := cfgrt_skip_plain _ (itemNodes c.items) (cfgrt_plain_scalarNodes c)
  simp only [Cfg.toTree, Node.sectionChildren, Cfg.children, hr, hh]
  exact cfgrt_parse_items _ h

end Humphrey.Conf
