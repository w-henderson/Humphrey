import HumphreyModel.Proofs.HttpMsgSer
import HumphreyModel.Proofs.RespSim
/-
`Response::from_stream` (model `parseResponse`) on what the serialiser wrote: the status line, the
header loop and the body come back. Run on the flat stream; `parseResponse_sim` lifts it to every
read segmentation.
-/
namespace Humphrey.Http
open Humphrey Humphrey.Bytes Humphrey.IO

/-- What parsing back needs beyond `Response.WF`. In Rust the version, the header values and the
phrase are `String`s, so the UTF-8 clauses always hold there; the model's byte lists are arbitrary.
`value_trim`: the parser applies `str::trim_start`, which strips *Unicode* white space. -/
structure Response.ParseBack (r : Response) : Prop where
  status_utf8 : utf8Valid (statusLine r ++ [13, 10]) = true
  line_utf8 : ∀ h ∈ r.headers, utf8Valid (headerLine h ++ [13, 10]) = true
  value_trim : ∀ h ∈ r.headers, wsPrefixLen h.value = 0
  /-- a `usize` -/
  body_len : r.body.length < 18446744073709551616
  /-- otherwise `from_stream` takes the chunked branch and reads the body through the chunk decoder -/
  not_chunked : r.headers.get hTransferEncoding ≠ some chunkedValue

theorem parseStatusLine_of_parts (version phrase : Bytes) (code : Nat)
    (hv : ∀ b ∈ version, b ≠ 32) (hk : statusKnown code = true)
    (hu : utf8Valid (version ++ 32 :: (natToBytes code ++ 32 :: phrase) ++ [13, 10]) = true) :
    parseStatusLine (version ++ 32 :: (natToBytes code ++ 32 :: phrase) ++ [13, 10]) = some (version, code) := by
  -- a code of the table is at most 599, hence a `u16` (and a `usize`)
  obtain ⟨_, _, hle, _, _⟩ := statusKnown_facts code hk
  obtain ⟨_, n2, _⟩ := natToBytes_digits code
  have shape : version ++ 32 :: (natToBytes code ++ 32 :: phrase) ++ [13, 10] =
      version ++ 32 :: (natToBytes code ++ 32 :: (phrase ++ [13, 10])) := by simp
  have e1 : splitOnce SP (version ++ 32 :: (natToBytes code ++ 32 :: (phrase ++ [13, 10]))) =
      (version, some (natToBytes code ++ 32 :: (phrase ++ [13, 10]))) :=
    splitOnce_append_sep _ (fun hm => hv _ hm rfl)
  have e2 : splitOnce SP (natToBytes code ++ 32 :: (phrase ++ [13, 10])) =
      (natToBytes code, some (phrase ++ [13, 10])) :=
    splitOnce_append_sep _ (fun hm => (isDigit_facts _ (n2 _ hm)).2.1 rfl)
  have e3 : parseU16 (natToBytes code) = some code := by
    rw [parseU16, parseUsize_natToBytes _ (by omega)]
    exact if_pos (by omega)
  rw [shape] at hu ⊢
  simp [parseStatusLine, hu, splitn3, e1, e2, e3, hk]

theorem parseStatusLine_serialize (r : Response) (h : r.WF) (hp : r.ParseBack) :
    parseStatusLine (statusLine r ++ [13, 10]) = some (r.version, r.status) := by
  have hu := hp.status_utf8
  rw [statusLine, (statusKnown_facts r.status h.status).1] at hu ⊢
  exact parseStatusLine_of_parts _ _ _ (fun b hb => (h.version_clean b hb).1) h.status hu

theorem Header.ofName_display (h : Header) (hw : h.name.WF) : (⟨HName.ofName h.name.display, h.value⟩ : Header) = h := by
  obtain ⟨⟨l⟩, v⟩ := h
  have := hw.lower
  simp only [HName.ofName] at this ⊢
  rw [this]

theorem Header.toWf_render (h : Header) : h.toWf.render = headerLine h ++ [13, 10] := by
  simp [Header.toWf, WfHeader.render, headerLine, COLON, SP, crlf]

theorem Header.toWf_core (h : Header) (hw : h.WF) (hu : utf8Valid (headerLine h ++ [13, 10]) = true)
    (ht : wsPrefixLen h.value = 0) : h.toWf.Core where
  name_chars := by
    simp only [avoids_cons, avoids_nil, and_true]
    exact ⟨fun hm => (isTchar_facts _ (hw.name.tchar _ hm)).1 rfl,
      fun hm => (isTchar_facts _ (hw.name.tchar _ hm)).2.2.1 rfl⟩
  name_utf8 := utf8Valid_ascii fun b hb => (isTchar_facts b (hw.name.tchar b hb)).2.2.2.2
  ows_chars := fun b hb => .inl (List.mem_singleton.mp hb)
  value_chars := by
    simp only [avoids_cons, avoids_nil, and_true]
    exact fun hm => (hw.value_nocrlf _ hm).2 rfl
  value_utf8 := by
    have e : headerLine h ++ [13, 10] = h.name.display ++ 58 :: ([] ++ 32 :: (h.value ++ 13 :: [10])) := by
      simp [headerLine]
    rw [e] at hu
    have h1 := (utf8Valid_split_ascii 58 _ (by decide) hu).2
    exact (utf8Valid_split_ascii 13 _ (by decide) (utf8Valid_split_ascii 32 _ (by decide) h1).2).1
  value_trimmed := trimStart_of_wsPrefixLen_zero ht

/-- The header loop reads back the field lines the serialiser wrote: `parseHeaders_render` at `Header.toWf`. -/
theorem parseRespHeaders_serialize (hs : Headers) (hw : ∀ h ∈ hs, h.WF)
    (hu : ∀ h ∈ hs, utf8Valid (headerLine h ++ [13, 10]) = true)
    (ht : ∀ h ∈ hs, wsPrefixLen h.value = 0) (t : Bytes) (fuel : Nat) (hf : hs.length < fuel)
    (acc : Headers) :
    parseRespHeaders flatSource fuel (hs.flatMap (fun h => headerLine h ++ [13, 10]) ++ 13 :: 10 :: t) acc =
      .ok (acc ++ hs, t) := by
  have hden : (hs.map Header.toWf).map WfHeader.denote = hs := by
    rw [List.map_map]
    exact (List.map_congr_left fun h hh => Header.ofName_display h (hw h hh).name).trans (List.map_id hs)
  have hren : renderHeaders (hs.map Header.toWf) = hs.flatMap (fun h => headerLine h ++ [13, 10]) := by
    rw [renderHeaders, List.map_map, List.flatMap_def]
    exact congrArg List.flatten (List.map_congr_left fun h _ => h.toWf_render)
  have hcore : ∀ w ∈ hs.map Header.toWf, w.Core := by
    intro w hm
    obtain ⟨h, hh, rfl⟩ := List.mem_map.mp hm
    exact h.toWf_core (hw h hh) (hu h hh) (ht h hh)
  have := parseHeaders_render (hs.map Header.toWf) hcore fuel (by rwa [List.length_map]) t acc
  rw [hden, hren, List.append_assoc] at this
  rw [parseRespHeaders_eq, Outcome.mapErr_eq_ok]
  exact this

/-- The two surplus bytes left unread after a non-empty body. -/
def pad (r : Response) : Bytes := if r.body = [] then [] else [13, 10]

/-- `read_to_end` on the flat stream returns everything that is left. -/
theorem readRest_flat (fuel : Nat) (s acc : Bytes) (hf : s.length < fuel) :
    readRest flatSource fuel s acc = (acc ++ s, []) := by
  induction fuel generalizing s acc with
  | zero => omega
  | succ fuel ih =>
    rcases flatReadUntil_cases 10 s with ⟨-, e⟩ | ⟨l, t, -, rfl, e⟩
    · cases s with
      | nil => simp [readRest, flatSource, LF, e]
      | cons x xs =>
        have := ih [] (acc ++ x :: xs) (Nat.zero_lt_of_lt (Nat.lt_of_succ_lt_succ hf))
        simp only [flatSource] at this
        simp [readRest, flatSource, LF, e, this]
    · have := ih t (acc ++ (l ++ [10])) (by simp only [List.length_append, List.length_cons] at hf; omega)
      simp only [flatSource] at this
      simp [readRest, flatSource, LF, e, this]

/-- `from_stream` on a status line, the field lines and the blank line: the status line and the
header list come back and `parseBody` decides the rest. -/
theorem parseResponse_head (sl version : Bytes) (code : Nat) (hs : Headers) (t : Bytes)
    (hsl : parseStatusLine (sl ++ [13, 10]) = some (version, code)) (hlf : ∀ b ∈ sl, b ≠ 10)
    (hw : ∀ h ∈ hs, h.WF) (hu : ∀ h ∈ hs, utf8Valid (headerLine h ++ [13, 10]) = true)
    (ht : ∀ h ∈ hs, wsPrefixLen h.value = 0) :
    parseResponse flatSource
        (sl ++ 13 :: 10 :: (hs.flatMap (fun h => headerLine h ++ [13, 10]) ++ 13 :: 10 :: t)) =
      match parseBody flatSource code hs t with
      | .err e => .err e
      | .panic => .panic
      | .ok ((hs', body), s3) => .ok (⟨version, code, hs', body⟩, s3) := by
  have hh := parseRespHeaders_serialize hs hw hu ht t
    ((hs.flatMap (fun h => headerLine h ++ [13, 10]) ++ 13 :: 10 :: t).length + 1)
    (by have := length_le_flatMap hs
        simp only [List.length_append]; omega) []
  simp only [flatSource] at hh
  simp only [parseResponse, flatSource, LF, flatReadUntil_line _ _ hlf, hsl, hh, List.nil_append]
  generalize parseBody _ code hs t = o
  rcases o with ⟨⟨⟨_, _⟩, _⟩⟩ | _ | _ <;> rfl

/-- Up to the body, `from_stream` reads back the status line and the (sorted) header list. -/
theorem parseResponse_serialize_upto_body (r : Response) (h : r.WF) (hp : r.ParseBack) (rest : Bytes) :
    parseResponse flatSource (serializeResponse r ++ rest) =
      match parseBody flatSource r.status r.headers.sorted (bodyPart r ++ rest) with
      | .err e => .err e
      | .panic => .panic
      | .ok ((hs, body), s3) => .ok (⟨r.version, r.status, hs, body⟩, s3) := by
  rw [serialize_shape]
  simp only [List.append_assoc, List.cons_append]
  exact parseResponse_head _ _ _ _ _ (parseStatusLine_serialize r h hp)
    (fun b hb => ((statusLine_facts r h).1 b hb).2)
    (fun x hx => h.headers x (mem_sorted.mp hx)) (fun x hx => hp.line_utf8 x (mem_sorted.mp hx))
    (fun x hx => hp.value_trim x (mem_sorted.mp hx))

/-- Framed by Content-Length, or bodiless (then either the status never carries a body or nothing
follows the message: otherwise the parser would take what follows for a close-delimited body). -/
theorem parseResponse_serialize (r : Response) (h : r.WF) (hp : r.ParseBack) (rest : Bytes)
    (hcl : r.headers.get hContentLength = some (natToBytes r.body.length) ∨
      (r.body = [] ∧ r.headers.get hContentLength = none ∧ (noBodyStatus r.status = true ∨ rest = []))) :
    parseResponse flatSource (serializeResponse r ++ rest) =
      .ok (⟨r.version, r.status, r.headers.sorted, r.body⟩, pad r ++ rest) := by
  have hte := hp.not_chunked
  rw [parseResponse_serialize_upto_body r h hp rest]
  simp only [parseBody, sorted_get, hte, if_false]
  rcases hcl with hcl | ⟨hb, hcl, hn | hn⟩
  · simp only [hcl, parseUsize_natToBytes _ hp.body_len, flatSource, flatReadExact]
    by_cases hb : r.body = [] <;> simp [hb, bodyPart, pad]
  · simp [hcl, hb, hn, bodyPart, pad]
  · subst hn
    by_cases hs : noBodyStatus r.status = true
    · simp [hcl, hb, hs, bodyPart, pad]
    · have := readRest_flat 1 [] [] (by simp)
      simp only [flatSource] at this
      simp [hcl, hb, hs, bodyPart, pad, flatSource, this]

end Humphrey.Http
