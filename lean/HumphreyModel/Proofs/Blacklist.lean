import HumphreyModel.Model.Blacklist
import HumphreyModel.Spec.Blacklist

/-! Lemmas for C19: the address test on `Address.fromHeaders`, the handlers' common prologue, the observation. -/
namespace Humphrey.Blacklist
open Humphrey Humphrey.Http Humphrey.BlacklistSpec

theorem listed_iff (cfg : BlCfg) (ip : Ip) : listed cfg ip = true ↔ ip ∈ cfg.list := by
  simp [listed]

theorem any_listed_iff (cfg : BlCfg) (l : List Ip) :
    l.any (listed cfg) = true ↔ ∃ a ∈ l, a ∈ cfg.list := by
  simp [List.any_eq_true, listed_iff]

/-- The addresses `Address::from_headers` hands to the blacklist test are exactly the peer and every
parsable forwarded entry: the origin is the last entry, the proxies are the earlier ones and the peer. -/
theorem isBlacklisted_fromHeaders (parseIp : Bytes → Option Ip) (cfg : BlCfg) (hs : Headers)
    (peer : Ip) (port : Nat) :
    isBlacklisted cfg (Address.fromHeaders parseIp Bytes.trim hs peer port) =
      (listed cfg peer || (forwarded parseIp hs).any (listed cfg)) := by
  unfold Address.fromHeaders forwarded
  cases hs.get hXff with
  | none => simp [isBlacklisted]
  | some fwd =>
    simp only
    generalize (Bytes.splitOn 44 fwd).filterMap _ = ips
    rcases List.eq_nil_or_concat ips with rfl | ⟨l, a, rfl⟩
    · simp [isBlacklisted]
    · -- origin `a`, proxies `l ++ [peer]`
      simp only [List.concat_eq_append, isBlacklisted, List.getLast?_append, List.getLast?_singleton,
        Option.some_or, List.dropLast_concat, List.any_append, List.any_cons, List.any_nil, Bool.or_false]
      cases listed cfg a <;> cases listed cfg peer <;> cases l.any (listed cfg) <;> rfl

/-- The unrepaired test looks at the last parsable forwarded entry alone, or at the peer when there is none. -/
theorem isBlacklistedOld_fromHeaders (parseIp : Bytes → Option Ip) (cfg : BlCfg) (hs : Headers)
    (peer : Ip) (port : Nat) :
    isBlacklistedOld cfg (Address.fromHeaders parseIp Bytes.trim hs peer port) =
      listed cfg (((forwarded parseIp hs).getLast?).getD peer) := by
  unfold Address.fromHeaders forwarded isBlacklistedOld
  cases hs.get hXff with
  | none => simp
  | some fwd =>
    simp only
    cases ((Bytes.splitOn 44 fwd).filterMap (fun e => parseIp (Bytes.trim e))).getLast? <;> rfl

/-- What a route does once the check has passed (this is also the answer under an empty blacklist). -/
def Route.unrefused : Route → Outcome
  | .file cc rest => afterCheckStatic cc rest
  | .directory cc rest => afterCheckStatic cc rest
  | .proxy rest => .served (.fresh rest)
  | .redirect rest => .served (.fresh rest)

/-- Every handler starts with the same test: a blacklisted address gets 403 from every route type,
whatever the cache holds. -/
theorem dispatch_eq (cfg : BlCfg) (a : Address) (route : Route) :
    dispatch cfg a route = if isBlacklisted cfg a then .forbidden403 else route.unrefused := by
  cases route <;> cases h : isBlacklisted cfg a <;>
    simp [dispatch, fileHandler, directoryHandler, redirectHandler, proxyHandler, blacklistCheck, h,
      Route.unrefused]

/-- The route's cache lookup does not panic (always true when the cache is off or the clock is monotone). -/
def Route.lookupOk : Route → Prop
  | .file cc _ => cacheCheck cc ≠ .panic
  | .directory cc _ => cacheCheck cc ≠ .panic
  | .proxy _ => True
  | .redirect _ => True

theorem unrefused_served (route : Route) (h : route.lookupOk) : ∃ k, route.unrefused = .served k := by
  cases route with
  | file cc rest | directory cc rest =>
    simp only [Route.lookupOk] at h
    simp only [Route.unrefused, afterCheckStatic]
    cases hc : cacheCheck cc with
    | panic => exact absurd hc h
    | ok o => cases o <;> simp
  | proxy rest | redirect rest => exact ⟨_, rfl⟩

/-- What the client observes. A handler panic kills the worker before anything is written. -/
def Outcome.obs : Outcome → Obs
  | .closedNoResponse => .closed
  | .forbidden403 => .forbidden
  | .served _ => .content
  | .panic => .closed

end Humphrey.Blacklist

namespace Humphrey.BlacklistSpec
variable {α : Type} [DecidableEq α]

/-- The specification determines the observation: `Holds` is the graph of `expected`. -/
theorem holds_iff_expected (block : Bool) (list : List α) (peer : α) (fwd : List α) (o : Obs) :
    Holds block list peer fwd o ↔ o = expected block list peer fwd := by
  have hall : (∀ a ∈ fwd, a ∉ list) ↔ ¬ ∃ a ∈ fwd, a ∈ list := by simp
  simp only [Holds, expected, List.contains_iff_mem, List.any_eq_true, hall]
  by_cases hp : peer ∈ list
  · cases block <;> simp [hp]
  · by_cases hf : ∃ a ∈ fwd, a ∈ list <;> simp [hp, hf]

end Humphrey.BlacklistSpec
