import HumphreyModel.Proofs.ConfCfg

/-!
`Config::from_tree` never panics. The only panicking operations of `from_tree` are the
`get_compulsory(..).unwrap()` calls of `parse_route` (the model's `.panic` arms of
`parseRouteOne`): they would fire on a key that is present in the flattened map but bound to a
section-like node. `flatten` only ever binds scalar nodes, so they cannot.
-/
namespace Humphrey.Conf

/-- Every binding of the map is a scalar node. -/
def cfgrt_Scalars (m : Map) : Prop := ∀ p ∈ m, (p.2.getString).isSome = true

theorem cfgrt_get_scalar {m : Map} (h : cfgrt_Scalars m) {key : Str} {n : Node}
    (hg : m.get key = some n) : n.getString.isSome = true := by
  induction m with
  | nil => cases hg
  | cons p m ih =>
    obtain ⟨k', v⟩ := p
    simp only [Map.get] at hg
    split at hg
    · cases hg; exact h _ (List.mem_cons_self)
    · exact ih (fun q hq => h q (List.mem_cons_of_mem _ hq)) hg

theorem cfgrt_Scalars.cons {key : Str} {n : Node} {m : Map} (hn : n.getString.isSome = true)
    (h : cfgrt_Scalars m) : cfgrt_Scalars ((key, n) :: m) := by
  intro p hp
  cases hp with
  | head => exact hn
  | tail _ hp => exact h p hp

mutual
theorem cfgrt_flattenNode_scalars (level : List Str) (n : Node) (m : Map) (h : cfgrt_Scalars m) :
    cfgrt_Scalars (flattenNode level n m) := by
  cases n with
  | «section» name cs =>
    rw [flattenNode]
    split
    · exact h
    · exact cfgrt_flattenList_scalars _ cs m h
  | number k v => exact .cons rfl h
  | boolean k v => exact .cons rfl h
  | string k v => exact .cons rfl h
  | host name cs => exact h
  | route name cs => exact h
theorem cfgrt_flattenList_scalars (level : List Str) (ns : List Node) (m : Map) (h : cfgrt_Scalars m) :
    cfgrt_Scalars (flattenList level ns m) := by
  cases ns with
  | nil => exact h
  | cons n ns => exact cfgrt_flattenList_scalars level ns _ (cfgrt_flattenNode_scalars level n m h)
end

/-- Where every binding is a scalar, a key that is present has a text (so the `unwrap`s of
`parse_route`, guarded by `contains_key`, cannot fail). -/
theorem cfgrt_getOwned_ne_none {m : Map} (h : cfgrt_Scalars m) {key : Str} (hp : (m.get key).isSome = true) :
    getOwned m key ≠ none := by
  obtain ⟨n, hn⟩ := Option.isSome_iff_exists.mp hp
  obtain ⟨s, hs⟩ := Option.isSome_iff_exists.mp (cfgrt_get_scalar h hn)
  rw [getOwned, hn, Option.bind_some, hs]
  nofun

theorem cfgrt_parseRouteOne_ne_panic (wild : Str) {conf : Map} (h : cfgrt_Scalars conf) :
    parseRouteOne wild conf ≠ .panic := by
  fun_cases parseRouteOne wild conf
  -- the four `unwrap`s: the key is present and has no text
  case case2 hp hn | case4 hp hn | case5 hp hn | case10 hp hn => exact absurd hn (cfgrt_getOwned_ne_none h hp)
  all_goals nofun

theorem cfgrt_parseRoutePats_ne_panic (ws : List Str) {conf : Map} (h : cfgrt_Scalars conf) :
    parseRoutePats ws conf ≠ .panic := by
  fun_induction parseRoutePats ws conf
  case case4 hp ih => exact absurd hp (ih h)
  case case6 hp => exact absurd hp (cfgrt_parseRouteOne_ne_panic _ h)
  all_goals nofun

theorem cfgrt_parseRoutes_ne_panic (ns : List Node) : parseRoutes ns ≠ .panic := by
  fun_induction parseRoutes ns
  case case4 hp ih => exact absurd hp ih
  case case6 inner _ hp =>
    exact absurd hp (cfgrt_parseRoutePats_ne_panic _ (cfgrt_flattenList_scalars [] inner [] nofun))
  case case7 ih => exact ih
  all_goals nofun

theorem cfgrt_parseHosts_ne_panic (ns : List Node) : parseHosts ns ≠ .panic := by
  fun_induction parseHosts ns
  case case4 hp ih => exact absurd hp ih
  case case6 hp => exact absurd hp (cfgrt_parseRoutes_ne_panic _)
  case case7 ih => exact ih
  all_goals nofun

theorem cfgrt_getOptionalParsed_ne_panic {α ε : Type} (m : Map) (key : Str) (d : α)
    (parse : Str → Option α) (e : ε) : getOptionalParsed m key d parse e ≠ .panic := by
  fun_cases getOptionalParsed m key d parse e <;> nofun

theorem cfgrt_loadBlacklist_ne_panic (fs : FS) (p : Option Str) : loadBlacklist fs p ≠ .panic := by
  fun_cases loadBlacklist fs p <;> nofun

end Humphrey.Conf
