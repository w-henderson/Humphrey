import HumphreyModel.Props.C04
import HumphreyModel.Proofs.HttpReqBytes
/-
Helper definitions and lemmas for the WebSocket half of C04 (`Props/C04Ws.lean`): the declarative
reading of "first WebSocket route whose pattern matches".
-/
namespace Humphrey.Http
open Humphrey Humphrey.Glob

/-- The first WebSocket route of `routes` (pairs pattern × handler) whose pattern matches `path`. -/
def FirstWsRoute {ω : Type} (routes : List (List Char × ω)) (path : List Char) (r : List Char × ω) : Prop :=
  FirstSuch (fun r => Glob r.1 path) routes r

def NoWsRoute {ω : Type} (routes : List (List Char × ω)) (path : List Char) : Prop :=
  ∀ r ∈ routes, ¬ Glob r.1 path

def NoHost {κ ω : Type} (subs : List (SubApp κ ω)) (host : List Char) : Prop :=
  ∀ s ∈ subs, ¬ Glob s.host host

/-- What `splitn(2, '?')` puts first holds no `?`. -/
theorem routeWs_splitOnce_fst (s : Bytes) : (63 : UInt8) ∉ (Bytes.splitOnce 63 s).1 :=
  (Bytes.splitOnce_inv rfl).1

end Humphrey.Http
