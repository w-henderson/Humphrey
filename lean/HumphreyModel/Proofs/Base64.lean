import HumphreyModel.Model.Base64
import HumphreyModel.Spec.Base64
import HumphreyModel.Proofs.CodecByte

/-! The model's alphabet and the decoder's value arms against RFC 4648 Table 1. The finite facts are
three evaluations: the two tables coincide, `sextet` inverts `sym` on the 64 indices, and `sym`
inverts `sextet` on the 256 bytes. Everything else about symbols follows from these. -/
namespace Humphrey.Base64

theorem alphabet_eq_table : alphabet = Spec.table := by decide

theorem sym_eq_table (n : Nat) : sym n = Spec.table.getD n 0 := by rw [sym, alphabet_eq_table]

theorem sextet_sym {n : Nat} (h : n < 64) : sextet (sym n) = some n := by
  have : (List.range 64).all (fun n => sextet (sym n) == some n) = true := by decide
  simpa using List.all_eq_true.mp this n (List.mem_range.mpr h)

theorem sextet_inv {c : UInt8} {v : Nat} (h : sextet c = some v) : v < 64 ∧ sym v = c := by
  have := forall_byte (p := fun c => match sextet c with
    | some v => decide (v < 64) && sym v == c
    | none => true) (by decide) c
  simpa [h] using this

theorem sextet_lt {c : UInt8} {v : Nat} (h : sextet c = some v) : v < 64 := (sextet_inv h).1

theorem sym_mem_table {n : Nat} (h : n < 64) : sym n ∈ Spec.table := by
  rw [sym_eq_table, List.getD_eq_getElem?_getD, List.getElem?_eq_getElem (by simpa [Spec.table] using h)]
  exact List.getElem_mem _

theorem sextet_mem {c : UInt8} {v : Nat} (h : sextet c = some v) : c ∈ Spec.table :=
  (sextet_inv h).2 ▸ sym_mem_table (sextet_inv h).1

/-- The value arms of the decoder's `match` are RFC 4648 Table 1 read backwards. -/
theorem mem_table_sextet {c : UInt8} (h : c ∈ Spec.table) : sextet c = some (Spec.table.idxOf c) := by
  have hi := List.idxOf_lt_length_of_mem h
  have e : sym (Spec.table.idxOf c) = c := by
    rw [sym_eq_table, List.getD_eq_getElem?_getD, List.getElem?_eq_getElem hi]
    exact List.getElem_idxOf hi
  rw [← sextet_sym (by simpa [Spec.table] using hi), e]

theorem sextet_some_iff {c : UInt8} {v : Nat} :
    sextet c = some v ↔ c ∈ Spec.table ∧ Spec.table.idxOf c = v := by
  constructor
  · intro h
    have hm := sextet_mem h
    rw [mem_table_sextet hm] at h
    exact ⟨hm, Option.some.inj h⟩
  · rintro ⟨hm, rfl⟩
    exact mem_table_sextet hm

theorem sextet_none_iff {c : UInt8} : sextet c = none ↔ c ∉ Spec.table := by
  constructor
  · intro h hm
    rw [mem_table_sextet hm] at h
    cases h
  · intro h
    cases hv : sextet c with
    | none => rfl
    | some v => exact (h (sextet_mem hv)).elim

theorem pad_not_mem_table : (61 : UInt8) ∉ Spec.table := sextet_none_iff.mp (by decide)

theorem mem_table_ne_pad {c : UInt8} (h : c ∈ Spec.table) : c ≠ 61 := by
  rintro rfl; exact pad_not_mem_table h

theorem groupIndices_lt {a b c : Nat} (ha : a < 256) (hb : b < 256) (hc : c < 256) :
    a / 4 < 64 ∧ a % 4 * 16 + b / 16 < 64 ∧ b % 16 * 4 + c / 64 < 64 ∧ c % 64 < 64 := by
  omega

end Humphrey.Base64
