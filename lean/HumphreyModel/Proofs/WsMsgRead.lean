import HumphreyModel.Model.WsMsg
import HumphreyModel.Proofs.WsFrameDecode

/-!
Reading frames from the scripted socket of `Model/WsMsg.lean`: a blocking `read_exact` delivers the
next `n` bytes of the data still to come, whatever the segmentation and wherever the `notYet` moments
sit; hence (C10's `decodeWith_sim` and `decodeFlat_take_encode`) a blocking frame read returns the
client's frame and leaves exactly the bytes after it.
-/
namespace Humphrey.WsMsg
open Humphrey.WsFrame

/-- No scripted `read` returns 0 bytes before the end of the stream. -/
def NonEmptyData (s : List Ev) : Prop := ∀ b, Ev.data b ∈ s → b ≠ []

/-- The script `s` delivers the byte string `bs` (in any segmentation, with any pauses). -/
def Delivers (s : List Ev) (bs : Bytes) : Prop := NonEmptyData s ∧ dataBytes s = bs

theorem NonEmptyData.tail {e : Ev} {s : List Ev} (h : NonEmptyData (e :: s)) : NonEmptyData s :=
  fun b hb => h b (List.mem_cons_of_mem _ hb)

theorem readExactEv_flat (n : Nat) (s : List Ev) (h : NonEmptyData s) :
    (readExactEv n s = none ∧ (dataBytes s).length < n) ∨
    ∃ s', readExactEv n s = some ((dataBytes s).take n, s') ∧ n ≤ (dataBytes s).length ∧
      dataBytes s' = (dataBytes s).drop n ∧ NonEmptyData s' := by
  fun_induction readExactEv n s with
  | case1 s => exact .inr ⟨s, rfl, Nat.zero_le _, rfl, h⟩
  | case2 n => exact .inl ⟨rfl, Nat.succ_pos n⟩
  | case3 n s ih => exact ih h.tail
  | case4 n c cs h0 => exact absurd (List.eq_nil_of_length_eq_zero h0) (h c (by simp))
  | case5 n c cs _ hle hr ih =>
    rcases ih h.tail with ⟨_, hlt⟩ | ⟨s', hs, _⟩
    · left
      refine ⟨rfl, ?_⟩
      simp only [dataBytes, List.length_append]; omega
    · rw [hr] at hs; cases hs
  | case6 n c cs _ hle bs s1 hr ih =>
    rcases ih h.tail with ⟨hn, _⟩ | ⟨s', hs, hle', hfl, hne⟩
    · rw [hr] at hn; cases hn
    · rw [hr] at hs; cases hs
      refine .inr ⟨_, ?_, ?_, ?_, hne⟩
      · simp only [dataBytes]
        rw [List.take_append, List.take_of_length_le hle]
      · simp only [dataBytes, List.length_append]; omega
      · rw [hfl]; simp only [dataBytes]
        rw [List.drop_append, List.drop_of_length_le hle, List.nil_append]
  | case7 n c cs h0 hgt =>
    refine .inr ⟨.data (c.drop (n + 1)) :: cs, ?_, ?_, ?_, ?_⟩
    · simp only [dataBytes]
      rw [List.take_append_of_le_length (by omega)]
    · simp only [dataBytes, List.length_append]; omega
    · simp only [dataBytes]
      rw [List.drop_append_of_le_length (by omega)]
    · intro d hd
      rcases List.mem_cons.mp hd with hd | hd
      · cases hd
        intro h0
        have : (c.drop (n + 1)).length = 0 := by rw [h0]; rfl
        simp only [List.length_drop] at this; omega
      · exact h.tail d hd

/-- The scripted socket and the flat byte string it delivers are related streams (C10's `Sim`). -/
theorem readExactEv_takeExact_sim : Sim Delivers readExactEv takeExact := by
  intro n s bs ⟨hne, hfl⟩
  subst hfl
  rcases readExactEv_flat n s hne with ⟨e, hlt⟩ | ⟨s', e, hle, hfl, hne'⟩
  · left; exact ⟨e, by unfold takeExact; rw [if_neg (by omega)]⟩
  · right; exact ⟨_, s', _, e, by unfold takeExact; rw [if_pos hle], hne', hfl⟩

/-- A blocking frame read does what the flat decoder does on the bytes still to come. -/
theorem readFrame_flat {s : List Ev} {bs : Bytes} (h : Delivers s bs) :
    ResRel Delivers (decodeWith readExactEv s) (decodeFlat bs) :=
  decodeWith_sim readExactEv_takeExact_sim h

theorem readFrame_error_of_flat {s : List Ev} {bs : Bytes} (h : Delivers s bs) {e : WsErr}
    (hf : (decodeFlat bs).result = .error e) : readFrame s = .error e :=
  (readFrame_flat h).error_right hf

theorem readFrame_ok_of_flat {s : List Ev} {bs : Bytes} (h : Delivers s bs) {f : Frame} {tl : Bytes}
    (hf : (decodeFlat bs).result = .ok (f, tl)) :
    ∃ rest, readFrame s = .ok (f, rest) ∧ Delivers rest tl :=
  (readFrame_flat h).ok_right hf

/-- **Frame read on a client frame.** Whatever the delivery, a blocking frame read returns the
client's frame (payload unmasked) and leaves exactly the bytes that follow it. -/
theorem readFrame_encode {s : List Ev} (f : Frame) (hwf : f.wf) (tail : Bytes)
    (h : Delivers s (encodeFrame f ++ tail)) :
    ∃ rest, readFrame s = .ok (f.normKey, rest) ∧ Delivers rest tail := by
  apply readFrame_ok_of_flat h
  rw [decodeFlat_encode_append f hwf]

/-- Results of a frame read depend only on the bytes delivered, not on segmentation or pauses. -/
theorem readFrame_delivery_independent (s₁ s₂ : List Ev) (bs : Bytes) (h₁ : Delivers s₁ bs)
    (h₂ : Delivers s₂ bs) :
    (∃ e, readFrame s₁ = .error e ∧ readFrame s₂ = .error e) ∨
    ∃ f r₁ r₂ tl, readFrame s₁ = .ok (f, r₁) ∧ readFrame s₂ = .ok (f, r₂) ∧ Delivers r₁ tl ∧
      Delivers r₂ tl := by
  cases hf : (decodeFlat bs).result with
  | error e => exact .inl ⟨e, readFrame_error_of_flat h₁ hf, readFrame_error_of_flat h₂ hf⟩
  | ok p =>
    obtain ⟨f, tl⟩ := p
    obtain ⟨r₁, e₁, d₁⟩ := readFrame_ok_of_flat h₁ hf
    obtain ⟨r₂, e₂, d₂⟩ := readFrame_ok_of_flat h₂ hf
    exact .inr ⟨f, r₁, r₂, tl, e₁, e₂, d₁, d₂⟩

/-- What may follow the complete frames of a script: nothing, or a frame cut short (abrupt
disconnect). Reading there fails with `ReadError`. -/
def Truncated (tail : Bytes) : Prop := (decodeFlat tail).result = .error .readError

theorem truncated_nil : Truncated [] := by
  simp [Truncated, decodeFlat, decodeWith, takeExact]

theorem truncated_prefix (g : Frame) (hwf : g.wf) (n : Nat) (hn : n < (encodeFrame g).length) :
    Truncated ((encodeFrame g).take n) :=
  decodeFlat_take_encode_lt g hwf n hn

/-- A stream that has delivered everything: only pauses are left, and a frame read fails. -/
theorem readFrame_nil {s : List Ev} (h : Delivers s []) : readFrame s = .error .readError :=
  readFrame_error_of_flat h truncated_nil

theorem readExactEv_map_data (n : Nat) (cs : List Bytes) :
    readExactEv n (cs.map Ev.data) = (readExact n cs).map (fun p => (p.1, p.2.map Ev.data)) := by
  fun_induction readExact n cs with
  | case1 | case2 => simp [readExactEv]
  | case3 n c cs h0 => simp [readExactEv, h0]
  | case4 n c cs h0 hle hr ih => simp [readExactEv, h0, hle, ih, hr]
  | case5 n c cs h0 hle bs s hr ih => simp [readExactEv, h0, hle, ih, hr]
  | case6 n c cs h0 hgt => simp [readExactEv, h0, hgt]

/-- On a script without `notYet` moments the socket's `read_exact` and C10's `readExact` are related
streams (so a frame read there is C10's `decodeFrame` on the chunks). -/
theorem readExactEv_readExact_sim :
    Sim (fun (s : List Ev) (cs : List Bytes) => s = cs.map Ev.data) readExactEv readExact := by
  intro n s cs h
  subst h
  rw [readExactEv_map_data]
  cases hr : readExact n cs with
  | none => left; simp
  | some p => right; exact ⟨p.1, p.2.map Ev.data, p.2, by simp, by simp, rfl⟩

end Humphrey.WsMsg
