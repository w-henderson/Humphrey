import HumphreyModel.Spec.ConfModel

/-!
"Bad value ⇒ rejected", in the direct direction, at whole-configuration level.
`from_tree` validates in this order: port, threads, timeout, threads ≠ 0, blacklist file, blacklist
mode, log level, log console, cache size, cache time, routes of the default host, hosts. A key with a
rejected value gives its own error provided the keys validated before it are fine.
-/
namespace Humphrey.Conf

theorem cfgrt_gop_bad {α ε : Type} {m : Map} {key : Str} {parse : Str → Option α}
    (h : KeyBad m key parse) (d : α) (e : ε) : getOptionalParsed m key d parse e = .err e := by
  obtain ⟨n, hn, hp⟩ := h
  simp only [getOptionalParsed, hn, hp]

/-- A fine key is read: as the default when it is absent, else as what its text parses to. -/
theorem cfgrt_gop_fine {α ε : Type} {m : Map} {key : Str} {parse : Str → Option α}
    (h : KeyFine m key parse) (d : α) (e : ε) :
    ∃ a, getOptionalParsed m key d parse e = .ok a ∧
      ((m.get key = none ∧ a = d) ∨ ∃ n, m.get key = some n ∧ n.scalar.bind parse = some a) := by
  unfold getOptionalParsed
  cases hg : m.get key with
  | none => exact ⟨d, rfl, .inl ⟨rfl, rfl⟩⟩
  | some n =>
    obtain ⟨a, ha⟩ := Option.isSome_iff_exists.mp (h n hg)
    exact ⟨a, by simp only [ha], .inr ⟨n, rfl, ha⟩⟩

/-- With fine numbers the three numeric getters succeed and the thread count is positive. -/
theorem cfgrt_numbers {m : Map} (h : NumbersFine m) :
    ∃ p t to, getOptionalParsed m (k "server.port") 80 (parseUnsigned 16) CfgErr.port = .ok p ∧
      getOptionalParsed m (k "server.threads") 32 (parseUnsigned 64) CfgErr.threads = .ok t ∧
      getOptionalParsed m (k "server.timeout") 0 (parseUnsigned 64) CfgErr.timeout = .ok to ∧
      ¬ t < 1 := by
  obtain ⟨p, hp, _⟩ := cfgrt_gop_fine h.port 80 CfgErr.port
  obtain ⟨to, hto, _⟩ := cfgrt_gop_fine h.timeout 0 CfgErr.timeout
  obtain ⟨t, ht, hval⟩ := cfgrt_gop_fine h.threads 32 CfgErr.threads
  refine ⟨p, t, to, hp, ht, hto, ?_⟩
  rcases hval with ⟨_, rfl⟩ | ⟨n, hn, hs⟩
  · decide
  · exact fun hlt => h.threadsPos n hn (by rw [hs, Nat.lt_one_iff.mp hlt])

/-- With a fine blacklist the mode match succeeds. -/
theorem cfgrt_blacklist {fs : FS} {m : Map} (h : BlacklistFine fs m) :
    ∃ l mode, loadBlacklist fs (getOwned m (k "server.blacklist.file")) = .ok l ∧
      (if getOptional m (k "server.blacklist.mode") (k "block") = k "block" then some BlacklistMode.block
       else if getOptional m (k "server.blacklist.mode") (k "block") = k "forbidden"
         then some BlacklistMode.forbidden else none) = some mode := by
  obtain ⟨l, hl⟩ := h.loads
  by_cases h1 : getOptional m (k "server.blacklist.mode") (k "block") = k "block"
  · exact ⟨l, .block, hl, by rw [if_pos h1]⟩
  · rcases h.mode with h2 | h2
    · exact absurd h2 h1
    · exact ⟨l, .forbidden, hl, by rw [if_neg h1, if_pos h2]⟩

/-- With all scalar keys fine, a failure of the routes of the default host, or (these being read) of the
hosts, is the result of `from_tree`. -/
theorem cfgrt_bad_items {fs : FS} {tree : Node} {e : CfgErr} (hs : ScalarsFine fs (flattenNode [] tree []))
    (h : parseRoutes tree.sectionChildren = .err e ∨
      ∃ rs, parseRoutes tree.sectionChildren = .ok rs ∧ parseHosts tree.sectionChildren = .err e) :
    fromTree fs tree = .err e := by
  obtain ⟨p, t, to, hp, ht, hto, hpos⟩ := cfgrt_numbers hs.numbers
  obtain ⟨l, mode, hl, hm⟩ := cfgrt_blacklist hs.blacklist
  obtain ⟨lv, hlv, _⟩ := cfgrt_gop_fine hs.level LogLevel.warn CfgErr.logLevel
  obtain ⟨cn, hcn, _⟩ := cfgrt_gop_fine hs.console true CfgErr.logConsole
  obtain ⟨sz, hsz, _⟩ := cfgrt_gop_fine hs.size 0 CfgErr.cacheSize
  obtain ⟨tm, htm, _⟩ := cfgrt_gop_fine hs.time 0 CfgErr.cacheTime
  unfold fromTree
  rcases h with h | ⟨rs, hr, h⟩
  · simp only [hp, ht, hto, if_neg hpos, hl, hm, hlv, hcn, hsz, htm, h]
  · simp only [hp, ht, hto, if_neg hpos, hl, hm, hlv, hcn, hsz, htm, hr, h]

end Humphrey.Conf
