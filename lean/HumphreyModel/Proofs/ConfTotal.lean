import HumphreyModel.Proofs.ConfValue

/-! The parser model never reaches a panic outcome (C15, and C03 for the configuration parser). -/
namespace Humphrey.Conf
open Humphrey.Glob

theorem goLines_ne_panic (inc : Str → Str → Nat → Nat → Res ConfError (List Node))
    (hinc : ∀ p f l d, inc p f l d ≠ .panic) (file : Str) (base : Nat) :
    ∀ lines ln stack cur, goLines inc file base lines ln stack cur ≠ .panic := by
  intro lines ln stack cur
  fun_induction goLines inc file base lines ln stack cur
  -- the four places where the code could panic
  case case5 h => exact absurd h (classify_ne_panic _)
  case case12 h => exact absurd h (typeValue_ne_panic _ _)
  case case13 hw hn => exact absurd hn (innerSlice_of_quote hw)
  case case16 h => exact absurd h (hinc _ _ _ _)
  -- where the loop goes on: the induction hypothesis
  case case3 ih | case7 ih | case8 ih | case10 ih | case14 ih => exact ih
  -- the remaining cases end in `ok` or `err`
  all_goals nofun

theorem parseFile_ne_panic (fs : FS) : ∀ fuel path cf line depth, parseFile fs fuel path cf line depth ≠ .panic := by
  intro fuel
  induction fuel with
  | zero => intro path cf line depth; simp [parseFile]
  | succ n ih =>
    intro path cf line depth
    unfold parseFile
    split
    · simp
    · split
      · simp
      · simp
      · exact goLines_ne_panic _ (fun p f l d => ih p f l d) _ _ _ _ _ _

end Humphrey.Conf
