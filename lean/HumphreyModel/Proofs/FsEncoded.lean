import HumphreyModel.Proofs.FsWalk
import HumphreyModel.Proofs.PercentMain
import HumphreyModel.Proofs.Percent
/-!
C06: the UTF-8 text of a URI whose characters are ASCII, and the canonical percent-encoded spelling of
a path: it is ASCII, so it decodes once to the path.
-/
namespace Humphrey.Fs
open Humphrey

theorem utf8_slash_cons (s : List Char) : utf8 ('/' :: s) = 47 :: utf8 s := by
  rw [utf8_cons]; rfl

theorem utf8EncodeChar_ascii (b : UInt8) (h : b < 128) :
    String.utf8EncodeChar (Char.ofNat b.toNat) = [b] := by
  have hb : b.toNat < 128 := h
  have hv : Nat.isValidChar b.toNat := .inl (by omega)
  have : (Char.ofNat b.toNat).val.toNat = b.toNat := by
    simp only [Char.ofNat, hv, dite_true, Char.ofNatAux]
    rfl
  simp only [String.utf8EncodeChar, this]
  rw [if_pos (by omega)]
  simp

theorem hexUpper_ascii : ∀ n : Fin 16, Percent.hexUpper n.val < 128 := by decide

theorem unreserved_ascii : ∀ x ∈ Percent.unreservedChars, x < 128 := by decide

theorem encode_ascii (bs : Bytes) : ∀ x ∈ Percent.encode bs, x < 128 := by
  induction bs with
  | nil => simp [Percent.encode]
  | cons b rest ih =>
    have hq : b.toNat / 16 < 16 := by have := b.toNat_lt; omega
    intro x hx
    simp only [Percent.encode] at hx
    split at hx
    · rename_i hb
      simp only [List.mem_cons] at hx
      rcases hx with rfl | hx
      · exact unreserved_ascii _ (by simpa using hb)
      · exact ih x hx
    · simp only [Percent.escape, List.cons_append, List.nil_append, List.mem_cons] at hx
      rcases hx with rfl | rfl | rfl | hx
      · decide
      · exact hexUpper_ascii ⟨_, hq⟩
      · exact hexUpper_ascii ⟨_, Nat.mod_lt _ (by decide)⟩
      · exact ih x hx

theorem utf8_asciiChars {bs : Bytes} (h : ∀ x ∈ bs, x < 128) : utf8 (asciiChars bs) = bs := by
  induction bs with
  | nil => simp [asciiChars, utf8]
  | cons b rest ih =>
    have := ih (fun x hx => h x (List.mem_cons_of_mem _ hx))
    simp only [asciiChars, List.map_cons, utf8_cons] at this ⊢
    rw [utf8EncodeChar_ascii b (h b (by simp))]
    simp [this]

/-- The encoded spelling decodes (once) to the path. -/
theorem decode_encoded_spelling (path : Bytes) :
    Percent.decode (utf8 (asciiChars (Percent.encode path))) = some path := by
  rw [utf8_asciiChars (encode_ascii path)]
  exact Percent.decode_encode' path

end Humphrey.Fs
