import HumphreyModel.Proofs.JsonSer

/-!
Two facts about derivations of `J`: the depth index is `depthOf` of the value denoted, and every
number in the value denoted is a value returned by the codec's `parse`.
-/
namespace Humphrey.JsonSpec
open Humphrey.Json

variable {N : Type} {C : NumCodec N}

/-- depth index against `depthOf`, by syntactic category -/
def JDepthAt (v : Value N) (d : Nat) : Kind → Prop
  | .value => depthOf v = d
  | .elems => depthOf v = d + 1
  | .members => depthOf v = d + 1

theorem J_depthOf {k : Kind} {t : List Char} {v : Value N} {d : Nat} (h : J C k t v d) :
    JDepthAt v d k := by
  induction h with
  | null | true | false | number _ _ | string _ | arrayEmpty _ | objectEmpty _ => rfl
  | array _ ih | object _ ih => exact ih
  | elemsOne _ _ _ ih =>
    show max (depthOf _) 0 + 1 = _
    rw [ih, Nat.max_zero]
  | elemsCons _ _ _ _ ih ih' =>
    show max (depthOf _) (depthList _) + 1 = _
    rw [ih, Nat.add_right_cancel ih']
  | membersOne _ _ _ _ _ _ ih =>
    show max (depthOf _) 0 + 1 = _
    rw [ih, Nat.max_zero]
  | membersCons _ _ _ _ _ _ _ ih ih' =>
    show max (depthOf _) (depthMembers _) + 1 = _
    rw [ih, Nat.add_right_cancel ih']

/-- every number of the value denoted was returned by the codec's `parse`, so a predicate that holds of all
of those holds of all numbers in the value -/
theorem J_finiteNumbers {Fin : N → Prop} (hF : ∀ l n, C.parse l = some n → Fin n)
    {k : Kind} {t : List Char} {v : Value N} {d : Nat} (h : J C k t v d) : FiniteNumbers Fin v := by
  induction h with
  | null | true | false | string _ | arrayEmpty _ | objectEmpty _ => exact trivial
  | number _ hp => exact hF _ _ hp
  | array _ ih | object _ ih => exact ih
  | elemsOne _ _ _ ih | membersOne _ _ _ _ _ _ ih => exact ⟨ih, trivial⟩
  | elemsCons _ _ _ _ ih ih' | membersCons _ _ _ _ _ _ _ ih ih' => exact ⟨ih, ih'⟩
end Humphrey.JsonSpec
