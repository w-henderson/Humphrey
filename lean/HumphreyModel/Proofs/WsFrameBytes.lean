import HumphreyModel.Model.WsFrame
import HumphreyModel.Spec.WsFrame

/-!
Byte-level facts for C10: header bit fields (finite case analysis), big-endian length fields,
XOR masking; the encoder's output cut into its fields, and its equality with the RFC layout.
-/
namespace Humphrey.WsFrame
open Spec

theorem packHeader0_eq (fin r1 r2 r3 : Bool) (op : Opcode) :
    packHeader0 fin r1 r2 r3 op
      = UInt8.ofNat (128 * bit fin + 64 * bit r1 + 32 * bit r2 + 16 * bit r3 + opcodeCode op) := by
  revert fin r1 r2 r3
  cases op <;> decide

theorem headerByte0_eq_octet0 (f : Frame) : headerByte0 f = octet0 f :=
  packHeader0_eq f.fin f.rsv1 f.rsv2 f.rsv3 f.opcode

/-- Second header octet for any 7-bit field value `n` (the encoder uses `f.length < 126`, 126, 127). -/
theorem lenByte_eq : ∀ n, n < 128 → ∀ m : Bool,
    (b2u8 m <<< 7) ||| n.toUInt8 = UInt8.ofNat (128 * bit m + n) := by decide +kernel

theorem be16_eq_beBytes (n : Nat) : be16 n = beBytes 2 n := by
  simp [be16, beBytes, Nat.toUInt8]

theorem be64_eq_beBytes (n : Nat) : be64 n = beBytes 8 n := by
  simp [be64, beBytes, Nat.toUInt8, Nat.div_div_eq_div_mul]

theorem packHeader0_decode (fin r1 r2 r3 : Bool) (op : Opcode) :
    (packHeader0 fin r1 r2 r3 op &&& 0x80 != 0) = fin ∧ (packHeader0 fin r1 r2 r3 op &&& 0x40 != 0) = r1 ∧
    (packHeader0 fin r1 r2 r3 op &&& 0x20 != 0) = r2 ∧ (packHeader0 fin r1 r2 r3 op &&& 0x10 != 0) = r3 ∧
    Opcode.ofNat? (packHeader0 fin r1 r2 r3 op &&& 0xF).toNat = some op := by
  revert fin r1 r2 r3
  cases op <;> decide +kernel

theorem header0_decode (f : Frame) :
    (headerByte0 f &&& 0x80 != 0) = f.fin ∧ (headerByte0 f &&& 0x40 != 0) = f.rsv1 ∧
    (headerByte0 f &&& 0x20 != 0) = f.rsv2 ∧ (headerByte0 f &&& 0x10 != 0) = f.rsv3 ∧
    Opcode.ofNat? (headerByte0 f &&& 0xF).toNat = some f.opcode :=
  packHeader0_decode f.fin f.rsv1 f.rsv2 f.rsv3 f.opcode

theorem lenByte_decode : ∀ n, n < 128 → ∀ m : Bool,
    ((((b2u8 m <<< 7) ||| n.toUInt8) &&& 0x80) != 0) = m ∧
    (((b2u8 m <<< 7) ||| n.toUInt8) &&& 0x7F).toNat = n := by decide +kernel

theorem fromBe_snoc (bs : Bytes) (b : UInt8) : fromBe (bs ++ [b]) = fromBe bs * 256 + b.toNat := by
  simp [fromBe]

theorem fromBe_beBytes (k n : Nat) : fromBe (beBytes k n) = n % 256 ^ k := by
  induction k generalizing n with
  | zero => simp [beBytes, fromBe, Nat.mod_one]
  | succ k ih =>
    rw [beBytes, fromBe_snoc, ih, UInt8.toNat_ofNat', Nat.pow_succ (n := 256), Nat.mul_comm (256 ^ k),
      Nat.mod_mul]
    omega

theorem fromBe_be16 (n : Nat) (h : n < 65536) : fromBe (be16 n) = n := by
  rw [be16_eq_beBytes, fromBe_beBytes]; exact Nat.mod_eq_of_lt h

theorem fromBe_be64 (n : Nat) (h : n < 18446744073709551616) : fromBe (be64 n) = n := by
  rw [be64_eq_beBytes, fromBe_beBytes]; exact Nat.mod_eq_of_lt h

theorem key_get_eq_keyOctet (k : Key) (i : Nat) : k.get (i % 4) = keyOctet k (i % 4) := by
  have h : i % 4 < 4 := Nat.mod_lt _ (by decide)
  generalize i % 4 = m at h
  match m, h with
  | 0, _ => rfl
  | 1, _ => rfl
  | 2, _ => rfl
  | 3, _ => rfl

theorem xorKey_eq_mapIdx (k : Key) (i : Nat) (p : Bytes) :
    xorKey k i p = p.mapIdx (fun j b => b ^^^ keyOctet k ((i + j) % 4)) := by
  induction p generalizing i with
  | nil => simp [xorKey]
  | cons b p ih =>
    simp only [xorKey, List.mapIdx_cons, ih, Nat.add_zero, key_get_eq_keyOctet]
    congr 1
    congr 1
    funext j b
    rw [Nat.add_assoc, Nat.add_comm 1 j]

theorem xorKey_eq_transform (k : Key) (p : Bytes) : xorKey k 0 p = transform k p := by
  simp [xorKey_eq_mapIdx, transform]

theorem xorKey_length (k : Key) (i : Nat) (p : Bytes) : (xorKey k i p).length = p.length := by
  induction p generalizing i with
  | nil => rfl
  | cons b p ih => simp [xorKey, ih]

/-- Masking twice with the same key gives the data back (what makes unmasking work). -/
theorem xorKey_xorKey (k : Key) (i : Nat) (p : Bytes) : xorKey k i (xorKey k i p) = p := by
  induction p generalizing i with
  | nil => rfl
  | cons b p ih => simp [xorKey, ih, UInt8.xor_assoc]

/-- The all-zero key of an unmasked frame changes nothing. -/
theorem xorKey_zero (i : Nat) (p : Bytes) : xorKey Key.zero i p = p := by
  induction p generalizing i with
  | nil => rfl
  | cons b p ih =>
    have h0 : Key.zero.get (i % 4) = 0 := by unfold Key.get; split <;> rfl
    rw [xorKey, ih, h0, UInt8.xor_zero]

/-- The well-formed frames of the property: the length field is the payload length, as `u64`. -/
def Frame.wf (f : Frame) : Prop := f.length = f.payload.length ∧ f.length < 18446744073709551616

/-- What decoding returns for `f`: the same frame; an unmasked frame has no key on the wire and
comes back with the all-zero key (`[0; 4]` in `from_stream_inner`). -/
def Frame.normKey (f : Frame) : Frame := { f with key := if f.mask then f.key else Key.zero }

/-- The 7-bit length field: the length itself, or the marker of a 16- or 64-bit extended length. -/
def len7 (n : Nat) : Nat := if n < 126 then n else if n < 65536 then 126 else 127

theorem len7_lt (n : Nat) : len7 n < 128 := by
  unfold len7
  split
  · omega
  · split <;> decide

def lenByte (f : Frame) : UInt8 := (b2u8 f.mask <<< 7) ||| (len7 f.length).toUInt8

def extLen (f : Frame) : Bytes :=
  if f.length < 126 then [] else if f.length < 65536 then be16 f.length else be64 f.length

def keyBytes (f : Frame) : Bytes := if f.mask then f.key.toList else []

def wirePayload (f : Frame) : Bytes := if f.mask then xorKey f.key 0 f.payload else f.payload

theorem encodeHeader_split (f : Frame) : encodeHeader f = [headerByte0 f, lenByte f] ++ extLen f := by
  unfold encodeHeader lenByte len7 extLen
  split
  · rfl
  · split <;> rfl

theorem encodeFrame_split (f : Frame) :
    encodeFrame f = [headerByte0 f, lenByte f] ++ (extLen f ++ (keyBytes f ++ wirePayload f)) := by
  simp only [encodeFrame, encodeHeader_split, keyBytes, wirePayload, List.append_assoc]

/-- The encoder's length classes are the RFC's (`< 126` is `≤ 125`, and so on). -/
theorem lengthField_eq (f : Frame) : lengthField f.length = (len7 f.length, extLen f) := by
  unfold lengthField len7 extLen
  by_cases h1 : f.length < 126
  · simp [h1, Nat.le_of_lt_succ h1]
  · by_cases h2 : f.length < 65536
    · simp [h1, h2, be16_eq_beBytes, show ¬ f.length ≤ 125 by omega, show f.length ≤ 65535 by omega]
    · simp [h1, h2, be64_eq_beBytes, show ¬ f.length ≤ 125 by omega, show ¬ f.length ≤ 65535 by omega]

theorem encodeFrame_eq_layout (f : Frame) : encodeFrame f = rfc6455Layout f := by
  simp only [encodeFrame, encodeHeader_split, rfc6455Layout, octet1, lengthField_eq, lenByte,
    lenByte_eq _ (len7_lt _), headerByte0_eq_octet0, xorKey_eq_transform]

theorem extLen_length (f : Frame) :
    (extLen f).length = if f.length < 126 then 0 else if f.length < 65536 then 2 else 8 := by
  unfold extLen
  split
  · rfl
  · split <;> rfl

theorem keyBytes_length (f : Frame) : (keyBytes f).length = if f.mask then 4 else 0 := by
  unfold keyBytes; cases f.mask <;> rfl

theorem wirePayload_length (f : Frame) : (wirePayload f).length = f.payload.length := by
  unfold wirePayload; cases f.mask <;> simp [xorKey_length]

theorem encodeFrame_length (f : Frame) :
    (encodeFrame f).length = 2 + (extLen f).length + (keyBytes f).length + f.payload.length := by
  rw [encodeFrame_split]; simp [wirePayload_length]; omega

end Humphrey.WsFrame
