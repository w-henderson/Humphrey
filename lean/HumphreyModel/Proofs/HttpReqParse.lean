import HumphreyModel.Spec.HttpReq
import HumphreyModel.Proofs.HttpReqBytes
/-
C02 faithfulness: the request parser run on the rendering of a well-formed request (`Spec/HttpReq.lean`)
followed by arbitrary bytes returns the denoted request and leaves exactly those bytes.
-/
namespace Humphrey.Http
open Humphrey Humphrey.Bytes Humphrey.IO

theorem avoids_not_mem {bad : List UInt8} {s : Bytes} (h : avoids bad s) {x : UInt8} (hx : x ∈ bad) :
    x ∉ s := fun hm => h x hm hx

theorem avoids_mono {bad bad' : List UInt8} {s : Bytes} (h : avoids bad s)
    (hsub : ∀ x ∈ bad', x ∈ bad) : avoids bad' s := fun b hb hb' => h b hb (hsub b hb')

theorem avoids_nil (s : Bytes) : avoids [] s := fun _ _ h => nomatch h

theorem avoids_cons {x : UInt8} {bad : List UInt8} {s : Bytes} :
    avoids (x :: bad) s ↔ x ∉ s ∧ avoids bad s :=
  ⟨fun h => ⟨fun hm => h x hm List.mem_cons_self, fun b hb hbad => h b hb (List.mem_cons_of_mem _ hbad)⟩,
   fun h b hb hbad => (List.mem_cons.mp hbad).elim (fun e => h.1 (e ▸ hb)) (h.2 b hb)⟩

theorem Method.ofName_name (m : Method) : Method.ofName m.name = some m := by
  cases m <;> decide

theorem ite_some_inv {α : Type} {c : Prop} [Decidable c] {a m : α} {e : Option α}
    (h : (if c then some a else e) = some m) : (c ∧ a = m) ∨ e = some m := by
  by_cases hc : c
  · rw [if_pos hc] at h; exact .inl ⟨hc, Option.some.inj h⟩
  · rw [if_neg hc] at h; exact .inr h

theorem Method.ofName_inv {n : Bytes} {m : Method} (h : Method.ofName n = some m) : n = m.name := by
  rcases ite_some_inv h with ⟨e, rfl⟩ | h
  · exact e
  rcases ite_some_inv h with ⟨e, rfl⟩ | h
  · exact e
  rcases ite_some_inv h with ⟨e, rfl⟩ | h
  · exact e
  rcases ite_some_inv h with ⟨e, rfl⟩ | h
  · exact e
  rcases ite_some_inv h with ⟨e, rfl⟩ | h
  · exact e
  · cases h

theorem Method.name_ne_nil (m : Method) : m.name ≠ [] := by cases m <;> exact List.cons_ne_nil _ _

theorem Method.name_upper (m : Method) : ∀ b ∈ m.name, 65 ≤ b ∧ b ≤ 90 := by cases m <;> decide

theorem Method.name_no_sp (m : Method) : SP ∉ m.name :=
  fun h => absurd (m.name_upper _ h).1 (by decide)

theorem Method.name_no_lf (m : Method) : LF ∉ m.name :=
  fun h => absurd (m.name_upper _ h).1 (by decide)

theorem Method.name_utf8 (m : Method) : utf8Valid m.name = true :=
  utf8Valid_ascii fun b hb => UInt8.lt_of_le_of_lt (m.name_upper b hb).2 (by decide)

theorem utf8Valid_crlf : utf8Valid crlf = true := by decide

theorem target_no_sp_lf {r : WfReq} (hc : r.Core) {x : UInt8} (hx : x = SP ∨ x = LF) : x ∉ r.target := by
  have hp : x ∉ r.path := by
    rcases hx with rfl | rfl
    · exact avoids_not_mem hc.path_chars (by simp)
    · exact avoids_not_mem hc.path_chars (by simp)
  unfold WfReq.target
  cases hq : r.query with
  | none => simpa using hp
  | some q =>
    have hq' := (hc.query_chars q hq).1
    have hxq : x ∉ q := by
      rcases hx with rfl | rfl
      · exact avoids_not_mem hq' (by simp)
      · exact avoids_not_mem hq' (by simp)
    have hne : x ≠ QMARK := by rcases hx with rfl | rfl <;> decide
    simp [hp, hxq, hne]

theorem target_utf8 {r : WfReq} (hc : r.Core) : utf8Valid r.target = true := by
  unfold WfReq.target
  cases hq : r.query with
  | none => simpa using hc.path_utf8
  | some q =>
    apply utf8Valid_append_true hc.path_utf8
    apply utf8Valid_append_true (by decide) (hc.query_chars q hq).2

theorem splitOnce_target {r : WfReq} (hc : r.Core) :
    splitOnce QMARK r.target = (r.path, r.query) := by
  have hp : QMARK ∉ r.path := avoids_not_mem hc.path_chars (by simp)
  unfold WfReq.target
  cases r.query with
  | none => simpa using splitOnce_no_sep hp
  | some q => simpa using splitOnce_append_sep q hp

theorem startLine_eq (r : WfReq) :
    r.startLine = r.method.name ++ SP :: (r.target ++ SP :: (r.version ++ crlf)) := by
  simp [WfReq.startLine]

theorem parseStartLine_startLine {r : WfReq} (hc : r.Core) :
    parseStartLine r.startLine = some (r.method, r.path, r.query.getD [], r.version) := by
  have hv_sp : SP ∉ r.version ++ crlf := by
    have h1 : SP ∉ r.version := avoids_not_mem hc.version_chars (by simp)
    have h2 : SP ∉ crlf := by decide
    simp [h1, h2]
  have hsplit : splitOn SP r.startLine = [r.method.name, r.target, r.version ++ crlf] := by
    rw [startLine_eq, splitOn_append_sep _ r.method.name_no_sp,
      splitOn_append_sep _ (target_no_sp_lf hc (.inl rfl)), splitOn_no_sep hv_sp]
  have hutf : utf8Valid r.startLine = true := by
    rw [startLine_eq]
    apply utf8Valid_append_true r.method.name_utf8
    rw [utf8Valid_cons_ascii _ (by decide)]
    apply utf8Valid_append_true (target_utf8 hc)
    rw [utf8Valid_cons_ascii _ (by decide)]
    exact utf8Valid_append_true hc.version_utf8 utf8Valid_crlf
  have hne : r.version.isEmpty = false := by
    cases hv : r.version with
    | nil => exact absurd hv hc.version_nonempty
    | cons x xs => rfl
  have hq : splitOnce 63 r.target = (r.path, r.query) := splitOnce_target hc
  simp only [parseStartLine, hutf, Bool.not_true, Bool.false_eq_true, if_false, hsplit,
    Method.ofName_name, stripCrlf_append_crlf, Option.getD_some, hne, hq]

theorem WfHeader.render_eq (h : WfHeader) :
    h.render = (h.name ++ COLON :: (h.ows ++ h.value)) ++ crlf := by
  simp [WfHeader.render]

theorem WfHeader.render_eq_snoc_lf (h : WfHeader) :
    h.render = (h.name ++ COLON :: (h.ows ++ h.value) ++ [CR]) ++ [LF] := by
  simp [WfHeader.render, crlf, CR, LF]

theorem ows_no_lf {h : WfHeader} (hc : h.Core) : LF ∉ h.ows := by
  intro hm
  rcases hc.ows_chars _ hm with e | e <;> revert e <;> decide

theorem ows_utf8 {h : WfHeader} (hc : h.Core) : utf8Valid h.ows = true := by
  apply utf8Valid_ascii
  intro b hb
  rcases hc.ows_chars _ hb with rfl | rfl <;> decide

theorem headerLine_no_lf {h : WfHeader} (hc : h.Core) :
    LF ∉ h.name ++ COLON :: (h.ows ++ h.value) ++ [CR] := by
  have h1 : LF ∉ h.name := avoids_not_mem hc.name_chars (by simp)
  have h2 : LF ∉ h.value := avoids_not_mem hc.value_chars (by simp)
  have h3 := ows_no_lf hc
  have h4 : ¬ LF = COLON := by decide
  have h5 : ¬ LF = CR := by decide
  simp [h1, h2, h3, h4, h5]

theorem parseHeaderLine_render {h : WfHeader} (hc : h.Core) :
    parseHeaderLine h.render = .ok h.denote := by
  have hutf : utf8Valid h.render = true := by
    rw [h.render_eq]
    refine utf8Valid_append_true (utf8Valid_append_true hc.name_utf8 ?_) utf8Valid_crlf
    rw [utf8Valid_cons_ascii _ (by decide)]
    exact utf8Valid_append_true (ows_utf8 hc) hc.value_utf8
  have hstrip : stripCrlf h.render = some (h.name ++ COLON :: (h.ows ++ h.value)) := by
    rw [h.render_eq, stripCrlf_append_crlf]
  have hsplit : splitOnce 58 (h.name ++ COLON :: (h.ows ++ h.value)) = (h.name, some (h.ows ++ h.value)) :=
    splitOnce_append_sep _ (avoids_not_mem hc.name_chars (by decide))
  have htrim : trimStart (h.ows ++ h.value) = h.value := by
    rw [trimStart_ows _ hc.ows_chars, hc.value_trimmed]
  simp only [parseHeaderLine, hutf, Bool.not_true, Bool.false_eq_true, if_false, hstrip, hsplit, htrim,
    WfHeader.denote]

theorem render_ne_crlf (h : WfHeader) : h.render ≠ crlf := by
  intro e
  have := congrArg List.length e
  simp [WfHeader.render, crlf] at this
  omega

theorem flatSource_readUntil : flatSource.readUntil = flatReadUntil := rfl
theorem flatSource_readExact : flatSource.readExact = flatReadExact := rfl
theorem flatSource_remaining (s : Bytes) : flatSource.remaining s = s.length := rfl

theorem renderHeaders_cons (h : WfHeader) (hs : List WfHeader) :
    renderHeaders (h :: hs) = h.render ++ renderHeaders hs := by
  simp [renderHeaders]

theorem length_le_renderHeaders (hs : List WfHeader) : hs.length ≤ (renderHeaders hs).length := by
  induction hs with
  | nil => simp
  | cons h hs ih =>
    rw [renderHeaders_cons]
    simp [WfHeader.render] at ih ⊢
    omega

theorem parseHeaders_render (hs : List WfHeader) (hc : ∀ h ∈ hs, h.Core) (fuel : Nat)
    (hf : hs.length < fuel) (t : Bytes) (acc : Headers) :
    parseHeaders flatSource fuel (renderHeaders hs ++ crlf ++ t) acc =
      .ok (acc ++ hs.map WfHeader.denote, t) := by
  induction hs generalizing fuel acc with
  | nil =>
    cases fuel with
    | zero => simp at hf
    | succ fuel =>
      have : flatReadUntil LF (CR :: LF :: t) = ([CR] ++ [LF], t) :=
        flatReadUntil_append_delim (l := [CR]) t (by decide)
      simp [parseHeaders, flatSource_readUntil, renderHeaders, crlf, CR, LF] at this ⊢
      simp [this]
  | cons h hs ih =>
    cases fuel with
    | zero => simp at hf
    | succ fuel =>
      have hh : h.Core := hc h (by simp)
      have hread : flatReadUntil LF (renderHeaders (h :: hs) ++ crlf ++ t) =
          (h.render, renderHeaders hs ++ crlf ++ t) := by
        rw [renderHeaders_cons, h.render_eq_snoc_lf]
        have := flatReadUntil_append_delim (renderHeaders hs ++ crlf ++ t) (headerLine_no_lf hh)
        simpa using this
      simp only [parseHeaders, flatSource_readUntil, hread, render_ne_crlf, if_false, parseHeaderLine_render hh]
      rw [ih (fun x hx => hc x (by simp [hx])) fuel (by simp at hf; omega)]
      simp

theorem hContentLength_eq : hContentLength = ⟨contentLengthLower⟩ := rfl

theorem get_contentLength_denote (hs : List WfHeader) :
    Headers.get (hs.map WfHeader.denote) hContentLength = clValue hs := by
  have h1 : ((fun h : Header => decide (h.name = hContentLength)) ∘ WfHeader.denote) =
      (fun h : WfHeader => decide (asciiLower h.name = contentLengthLower)) := by
    funext h
    simp [WfHeader.denote, HName.ofName, hContentLength_eq]
  have h2 : ((fun h : Header => h.value) ∘ WfHeader.denote) = (fun h : WfHeader => h.value) := by
    funext h; rfl
  unfold Headers.get clValue
  rw [List.find?_map, Option.map_map, h1, h2]

theorem WfHeader.WF.core {h : WfHeader} (w : h.WF) : h.Core where
  name_chars := avoids_mono w.name_chars (by simp)
  name_utf8 := w.name_utf8
  ows_chars := w.ows_chars
  value_chars := avoids_mono w.value_chars (by simp)
  value_utf8 := w.value_utf8
  value_trimmed := w.value_trimmed

theorem WfReq.WF.core {r : WfReq} (w : r.WF) : r.Core where
  path_chars := avoids_mono w.path_chars (by simp)
  path_utf8 := w.path_utf8
  query_chars := fun q hq => ⟨avoids_mono (w.query_chars q hq).1 (by simp), (w.query_chars q hq).2⟩
  version_nonempty := w.version_nonempty
  version_chars := avoids_mono w.version_chars (by simp)
  version_utf8 := w.version_utf8
  headers := fun h hh => (w.headers h hh).core
  content_length := by
    have hcl := w.content_length
    cases hb : r.body with
    | none => simpa [hb] using hcl
    | some b =>
      simp only [hb, Option.map_some] at hcl
      exact ⟨_, hcl, parseUsize_natToBytes _ (w.body_size b hb)⟩

theorem WfHeader.wf_of_wfb {h : WfHeader} (e : h.wfb = true) : h.WF := by
  simp only [WfHeader.wfb, Bool.and_eq_true, decide_eq_true_eq] at e
  obtain ⟨⟨⟨⟨⟨⟨a, b⟩, c⟩, d⟩, e⟩, f⟩, g⟩ := e
  exact ⟨a, b, c, d, e, f, g⟩

theorem WfReq.wf_of_wfb {r : WfReq} (e : r.wfb = true) : r.WF := by
  simp only [WfReq.wfb, Bool.and_eq_true, decide_eq_true_eq, List.all_eq_true] at e
  obtain ⟨⟨⟨⟨⟨⟨⟨⟨a, b⟩, c⟩, d⟩, e⟩, f⟩, g⟩, h⟩, i⟩ := e
  refine ⟨a, b, ?_, d, e, f, fun x hx => WfHeader.wf_of_wfb (g x hx), h, ?_⟩
  · intro q hq
    simp only [hq, Bool.and_eq_true, decide_eq_true_eq] at c
    exact c
  · intro b hb
    simp only [hb, decide_eq_true_eq] at i
    exact i

/-- Faithfulness on the flat stream, under the hypotheses the parser really needs. -/
theorem parse_render_core (r : WfReq) (env : Env) (hc : r.Core) (rest : Bytes) :
    parseRequest flatSource env (r.render ++ rest) = .ok (r.denote env, rest) := by
  obtain ⟨m0, mt, hm⟩ : ∃ m0 mt, r.method.name = m0 :: mt := by
    cases h : r.method.name with
    | nil => exact absurd h r.method.name_ne_nil
    | cons a b => exact ⟨a, b, rfl⟩
  let after := renderHeaders r.headers ++ crlf ++ (r.body.getD [] ++ rest)
  let l1 := mt ++ SP :: (r.target ++ SP :: (r.version ++ [CR]))
  have hstream : r.render ++ rest = m0 :: (l1 ++ LF :: after) := by
    simp [WfReq.render, startLine_eq, hm, crlf, CR, LF, after, l1]
  have hl1 : LF ∉ l1 := by
    have h1 : LF ∉ mt := by
      have := r.method.name_no_lf
      rw [hm] at this
      simp only [List.mem_cons, not_or] at this
      exact this.2
    have h2 : LF ∉ r.target := target_no_sp_lf hc (.inr rfl)
    have h3 : LF ∉ r.version := avoids_not_mem hc.version_chars (by simp)
    have h4 : ¬ LF = SP := by decide
    have h5 : ¬ LF = CR := by decide
    simp [l1, h1, h2, h3, h4, h5]
  have hfirst : flatReadExact 1 (m0 :: (l1 ++ LF :: after)) = some ([m0], l1 ++ LF :: after) := by
    simp [flatReadExact]
  have hline : flatReadUntil LF (l1 ++ LF :: after) = (l1 ++ [LF], after) :=
    flatReadUntil_append_delim after hl1
  have hsl : [m0] ++ (l1 ++ [LF]) = r.startLine := by
    simp [startLine_eq, hm, l1, crlf, CR, LF]
  have hhead : parseHeaders flatSource (after.length + 1) after [] =
      .ok (r.headers.map WfHeader.denote, r.body.getD [] ++ rest) := by
    have := parseHeaders_render r.headers hc.headers (after.length + 1)
      (by
        have := length_le_renderHeaders r.headers
        simp only [after, List.length_append]
        omega)
      (r.body.getD [] ++ rest) []
    simpa [after] using this
  rw [hstream]
  simp only [parseRequest, flatSource_readUntil, flatSource_readExact, flatSource_remaining, hfirst,
    hline, hsl, parseStartLine_startLine hc, hhead, get_contentLength_denote]
  have hcl := hc.content_length
  cases hb : r.body with
  | none =>
    simp only [hb] at hcl
    simp [hcl, WfReq.denote, hb]
  | some b =>
    simp only [hb] at hcl
    obtain ⟨cl, h1, h2⟩ := hcl
    simp [h1, h2, flatReadExact_append, WfReq.denote, hb]

end Humphrey.Http
