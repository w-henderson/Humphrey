import HumphreyModel.Proofs.AuthRefine
/-!
One simulation lemma per `AuthProvider` operation: from related states the model and the abstract
specification produce the same output and related states.
-/
namespace Humphrey.Auth
set_option linter.unusedSectionVars false -- the sections' `DecidableEq` instances are not needed by every lemma

section
variable {U T H P S Pep : Type} [DecidableEq U] [DecidableEq T] [DecidableEq P]
variable {hs : HashScheme P S Pep H} {cfg : Config Pep} {db : Db U T H} {a : Spec.State U T P}

theorem sim_createUser (hr : Rel hs cfg db a) (dl rl : Nat) (p : P) (salt : S) (u : U) (now : Nat) :
    Rel hs cfg (createUser hs cfg db p salt u).1
      (Spec.step dl rl a (.createUser p salt u : Op U T P S) now).1 ∧
    (createUser hs cfg db p salt u).2 = (Spec.step dl rl a (.createUser p salt u : Op U T P S) now).2 := by
  cases ha : a.pw u with
  | some p0 =>
    obtain ⟨x, _, hx, _⟩ := hr.pwSome u p0 ha
    simp only [createUser, addUser, hx, Spec.step, ha, Option.isSome_some, if_true, and_true]
    exact hr.mono (fun _ h => List.mem_cons_of_mem _ h) (fun _ h => h)
  | none =>
    have hn := hr.pwNone u ha
    simp only [createUser, addUser, hn, Spec.step, ha, Option.isSome_none, Bool.false_eq_true, if_false,
      and_true]
    refine {
      uids := uidsDistinct_append hr.uids hn
      sess := fun u' t e => ?sess
      pwNone := fun u' h => ?pwNone
      pwSome := fun u' q h => ?pwSome
      drawnT := hr.drawnT
      drawnU := fun u' q h => ?drawnU }
    case sess => rw [sessOf_append db rfl]; exact hr.sess u' t e
    case pwNone =>
      rcases Spec.upd_eq_iff.mp h with ⟨_, h⟩ | ⟨hu, h⟩
      · cases h
      · rw [getUserByUid_append, hr.pwNone u' h, if_neg (Ne.symm hu)]; rfl
    case pwSome =>
      rw [getUserByUid_append]
      rcases Spec.upd_eq_iff.mp h with ⟨rfl, hq⟩ | ⟨_, h⟩
      · cases hq
        exact ⟨_, salt, by rw [hn, if_pos rfl]; rfl, rfl⟩
      · obtain ⟨x, s, hx, hh⟩ := hr.pwSome u' q h
        exact ⟨x, s, by rw [hx]; rfl, hh⟩
    case drawnU =>
      rcases Spec.upd_eq_iff.mp h with ⟨rfl, _⟩ | ⟨_, h⟩
      · exact List.mem_cons_self
      · exact List.mem_cons_of_mem _ (hr.drawnU u' q h)

theorem sim_removeUser (hr : Rel hs cfg db a) (dl rl : Nat) (u : U) (now : Nat) :
    Rel hs cfg (removeUserOp db u).1 (Spec.step dl rl a (.removeUser u : Op U T P S) now).1 ∧
    (removeUserOp db u).2 = (Spec.step dl rl a (.removeUser u : Op U T P S) now).2 := by
  cases ha : a.pw u with
  | none =>
    simp only [removeUserOp, removeUser, hr.pwNone u ha, Spec.step, ha, Option.isNone_none, if_true, and_true]
    exact hr
  | some p0 =>
    obtain ⟨x, _, hx, _⟩ := hr.pwSome u p0 ha
    simp only [removeUserOp, removeUser, hx, Spec.step, ha, Option.isNone_some, Bool.false_eq_true,
      if_false, and_true]
    refine {
      uids := uidsDistinct_filter hr.uids _
      sess := fun u' t e => ?sess
      pwNone := fun u' h => ?pwNone
      pwSome := fun u' q h => ?pwSome
      drawnT := fun t u' e h => hr.drawnT t u' e (Spec.dropSessionsOf_eq_some.mp h).1
      drawnU := fun u' q h => ?drawnU }
    case sess =>
      rw [sessOf_filter, Spec.dropSessionsOf_eq_some]
      by_cases hu : u' = u
      · simp [hu]
      · simp only [hu, if_false, ne_eq, not_false_eq_true, and_true]; exact hr.sess u' t e
    case pwNone =>
      rw [getUserByUid_filter]
      rcases Spec.upd_eq_iff.mp h with ⟨hu, _⟩ | ⟨hu, h⟩
      · exact if_pos hu
      · rw [if_neg hu]; exact hr.pwNone u' h
    case pwSome =>
      rcases Spec.upd_eq_iff.mp h with ⟨_, h⟩ | ⟨hu, h⟩
      · cases h
      · rw [getUserByUid_filter, if_neg hu]; exact hr.pwSome u' q h
    case drawnU =>
      rcases Spec.upd_eq_iff.mp h with ⟨_, h⟩ | ⟨_, h⟩
      · cases h
      · exact hr.drawnU u' q h

theorem sim_verify (hl : hs.Lawful) (hr : Rel hs cfg db a) (u : U) (p : P) :
    verifyPw hs cfg db u p = decide (a.pw u = some p) := by
  cases ha : a.pw u with
  | none => simp [verifyPw, hr.pwNone u ha]
  | some p0 =>
    obtain ⟨x, salt, hx, hh⟩ := hr.pwSome u p0 ha
    rw [Bool.eq_iff_iff]
    simp only [verifyPw, hx, hh, hl p0 salt cfg.pepper p cfg.pepper, and_true, decide_eq_true_eq,
      Option.some.injEq]

theorem sim_exists (hr : Rel hs cfg db a) (u : U) : userExists db u = (a.pw u).isSome := by
  unfold userExists
  cases h : a.pw u with
  | none => simp [hr.pwNone u h]
  | some p => obtain ⟨x, _, hx, _⟩ := hr.pwSome u p h; simp [hx]

theorem sim_getUidByToken (hr : Rel hs cfg db a) (t : T) (now : Nat) :
    getUidByToken db t now =
      (match Spec.live a now t with | some u => Out.uid u | none => Out.err .invalidToken) := by
  unfold getUidByToken Spec.live
  rcases hr.lookupTok t with ⟨h1, h2⟩ | ⟨x, e, h1, h2, h3, _⟩
  · simp [h1, h2]
  · simp only [h1, h2, h3, sessionValid]
    by_cases h : now < e <;> simp [h]

theorem sim_authRoute (hr : Rel hs cfg db a) (c : Option T) (now : Nat) :
    authRoute db c now =
      (match c.bind (Spec.live a now) with | some u => Out.http200 u | none => Out.http401) := by
  cases c with
  | none => simp [authRoute]
  | some t =>
    simp only [authRoute, sim_getUidByToken hr t now, Option.bind_some]
    cases Spec.live a now t <;> rfl

/-- `create_session` / `create_session_with_lifetime`; needs the drawn token to be fresh. -/
theorem sim_issue (hr : Rel hs cfg db a) (u : U) (l : Nat) (t : T) (now : Nat) (hf : t ∉ a.drawnToks) :
    Rel hs cfg (createSessionWith db u l t now).1 (Spec.issue a u l t now).1 ∧
    (createSessionWith db u l t now).2 = (Spec.issue a u l t now).2 := by
  have hr1 : Rel hs cfg db { a with drawnToks := t :: a.drawnToks } :=
    hr.mono (fun _ h => h) (fun _ h => List.mem_cons_of_mem _ h)
  cases ha : a.pw u with
  | none =>
    simp only [createSessionWith, hr.pwNone u ha, Spec.issue, ha, and_true]
    exact hr1
  | some p0 =>
    obtain ⟨x, _, hx, _⟩ := hr.pwSome u p0 ha
    simp only [createSessionWith, hx, Spec.issue, ha, hr.hasLive_eq hx now]
    cases hasValidSession now x with
    | true => simp only [Bool.not_true, Bool.false_eq_true, if_false, if_true, and_true]; exact hr1
    | false =>
      simp only [Bool.not_false, if_true, Bool.false_eq_true, if_false]
      by_cases hov : now + l < u64Bound
      · -- a fresh token is in nobody's hands
        obtain ⟨db', hup, hrel⟩ := hr1.writeSession hx t (now + l) List.mem_cons_self
          (fun u' e' h => absurd (hr.drawnT t u' e' h) hf)
        simp only [hov, if_true, hup, and_true]
        exact hrel
      · simp only [hov, if_false, and_true]; exact hr1

/-- A live token is refreshed by writing it again, with the new expiry, for its owner. -/
theorem sim_refresh (hr : Rel hs cfg db a) (dl : Nat) (t : T) (now : Nat) :
    Rel hs cfg (refreshSession cfg db t now).1
      (Spec.step dl cfg.defaultRefreshLifetime a (.refreshSession t : Op U T P S) now).1 ∧
    (refreshSession cfg db t now).2 =
      (Spec.step dl cfg.defaultRefreshLifetime a (.refreshSession t : Op U T P S) now).2 := by
  rcases hr.lookupTok t with ⟨h1, h2⟩ | ⟨x, e, h1, h2, h3, h4⟩
  · simp only [refreshSession, h1, Spec.step, Spec.live, h2, and_true]; exact hr
  · simp only [refreshSession, h1, h2, Spec.step, Spec.live, h3, sessionValid]
    by_cases hlt : now < e
    · simp only [hlt, decide_true, if_true]
      by_cases hov : now + cfg.defaultRefreshLifetime < u64Bound
      · obtain ⟨db', hup, hrel⟩ := hr.writeSession h4 t (now + cfg.defaultRefreshLifetime)
          (hr.drawnT t _ e h3) (fun u' e' h => by rw [h3] at h; cases h; rfl)
        rw [hr.drop_owner h3, Spec.upd_upd] at hrel
        simp only [hov, if_true, hup, and_true]
        exact hrel
      · simp only [hov, if_false, and_true]; exact hr
    · simp only [hlt, decide_false, Bool.false_eq_true, if_false, and_true]; exact hr

/-- Invalidating a token clears the session of its owner, who holds no other token. -/
theorem sim_invalidateSession (hr : Rel hs cfg db a) (dl rl : Nat) (t : T) (now : Nat) :
    Rel hs cfg (invalidateSession db t).1 (Spec.step dl rl a (.invalidateSession t : Op U T P S) now).1 ∧
    (invalidateSession db t).2 = (Spec.step dl rl a (.invalidateSession t : Op U T P S) now).2 := by
  rcases hr.lookupTok t with ⟨h1, h2⟩ | ⟨x, e, h1, h2, h3, h4⟩
  · simp only [invalidateSession, h1, Spec.step, Spec.upd_eq_self h2, and_true]
    exact hr
  · obtain ⟨db', hup, hrel⟩ := hr.clearSession h4
    rw [hr.drop_owner h3] at hrel
    simp only [invalidateSession, h1, hup, Spec.step, and_true]
    exact hrel

theorem sim_invalidateUserSession (hr : Rel hs cfg db a) (dl rl : Nat) (u : U) (now : Nat) :
    Rel hs cfg (invalidateUserSession db u).1
      (Spec.step dl rl a (.invalidateUserSession u : Op U T P S) now).1 ∧
    (invalidateUserSession db u).2 = (Spec.step dl rl a (.invalidateUserSession u : Op U T P S) now).2 := by
  cases hx : getUserByUid db u with
  | none =>
    have : Spec.dropSessionsOf a u = a.sess := funext fun t => Spec.dropSessionsOf_of_not_owner fun e h => by
      have := (hr.sess u t e).mpr h
      simp [sessOf, hx] at this
    simp only [invalidateUserSession, hx, Spec.step, this, and_true]
    exact hr
  | some x =>
    obtain ⟨db', hup, hrel⟩ := hr.clearSession hx
    simp only [invalidateUserSession, hx, hup, Spec.step, and_true]
    exact hrel

end
end Humphrey.Auth
