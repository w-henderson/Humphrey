import HumphreyModel.Proofs.Sha1Pad
import HumphreyModel.Proofs.Bits

/-!
Helper lemmas for C18 (SHA-1): bytes, bits and words. The 16 big-endian words that `sha1.rs` loads from
a chunk are the words `M(t)` that RFC 3174 §6.1 reads off the bit string.
-/
namespace Humphrey.Sha1
open Humphrey.Rfc3174

theorem natOfBits_eq (bs : List Bool) : natOfBits bs = bitsVal bs := rfl

theorem byteBits_eq (b : UInt8) : byteBits b = bits 8 b.toNat := rfl

theorem bitsVal_byteBits (b : UInt8) : bitsVal (byteBits b) = b.toNat := by
  rw [byteBits_eq, bitsVal_bits]
  exact Nat.mod_eq_of_lt b.toNat_lt

/-- A big-endian 32-bit word read from the bit string is `u32::from_be_bytes` of the four bytes. -/
theorem word_of_bits (b0 b1 b2 b3 : UInt8) :
    UInt32.ofNat (natOfBits (byteBits b0 ++ (byteBits b1 ++ (byteBits b2 ++ byteBits b3)))) =
      fromBe b0 b1 b2 b3 := by
  rw [natOfBits_eq, bitsVal_append, bitsVal_append, bitsVal_append]
  simp only [bitsVal_byteBits, List.length_append, byteBits_length]
  unfold fromBe
  apply congrArg UInt32.ofNat
  have e1 : (2 : Nat) ^ (8 + (8 + 8)) = 16777216 := by simp
  have e2 : (2 : Nat) ^ (8 + 8) = 65536 := by simp
  have e3 : (2 : Nat) ^ 8 = 256 := by simp
  rw [e1, e2, e3]
  omega

theorem bitsOfBytes_take_drop (bs : List UInt8) (k : Nat) (h : k ≤ bs.length) :
    bitsOfBytes (bs.take k) = (bitsOfBytes bs).take (8 * k) ∧
    bitsOfBytes (bs.drop k) = (bitsOfBytes bs).drop (8 * k) := by
  have hl : (bitsOfBytes (bs.take k)).length = 8 * k := by
    rw [bitsOfBytes_length, List.length_take, Nat.min_eq_left h]
  have e : bitsOfBytes bs = bitsOfBytes (bs.take k) ++ bitsOfBytes (bs.drop k) := by
    rw [← bitsOfBytes_append, List.take_append_drop]
  rw [e]
  exact ⟨(List.take_left' hl).symm, (List.drop_left' hl).symm⟩

theorem M_zero (b0 b1 b2 b3 : UInt8) (rest : List UInt8) :
    M (bitsOfBytes (b0 :: b1 :: b2 :: b3 :: rest)) 0 = fromBe b0 b1 b2 b3 := by
  rw [← word_of_bits]
  unfold M
  simp only [bitsOfBytes, Nat.mul_zero, List.drop_zero, ← List.append_assoc]
  rw [List.take_append_of_le_length (by simp [byteBits_length])]
  rw [List.take_of_length_le (by simp [byteBits_length])]

theorem M_succ (b0 b1 b2 b3 : UInt8) (rest : List UInt8) (t : Nat) :
    M (bitsOfBytes (b0 :: b1 :: b2 :: b3 :: rest)) (t + 1) = M (bitsOfBytes rest) t := by
  unfold M
  have e : 32 * (t + 1) = 32 + 32 * t := by omega
  rw [e, ← List.drop_drop]
  congr 3

/-- The words of a block as `sha1.rs` loads them are the RFC's `M(0), M(1), …`. -/
theorem wordsOfBytes_eq_M (bs : List UInt8) :
    wordsOfBytes bs = (List.range (bs.length / 4)).map (M (bitsOfBytes bs)) := by
  fun_induction wordsOfBytes bs with
  | case1 b0 b1 b2 b3 rest ih =>
    have e : (b0 :: b1 :: b2 :: b3 :: rest).length / 4 = rest.length / 4 + 1 := by
      simp only [List.length_cons]; omega
    have hs : M (bitsOfBytes (b0 :: b1 :: b2 :: b3 :: rest)) ∘ Nat.succ = M (bitsOfBytes rest) :=
      funext (M_succ b0 b1 b2 b3 rest)
    rw [e, List.range_succ_eq_map, List.map_cons, List.map_map, hs, M_zero, ih]
  | case2 bs h =>
    match bs, h with
    | b0 :: b1 :: b2 :: b3 :: rest, h => exact (h _ _ _ _ _ rfl).elim
    | [], _ | [_], _ | [_, _], _ | [_, _, _], _ => simp

theorem wordsOfBytes_length (bs : List UInt8) : (wordsOfBytes bs).length = bs.length / 4 := by
  rw [wordsOfBytes_eq_M, List.length_map, List.length_range]

end Humphrey.Sha1
