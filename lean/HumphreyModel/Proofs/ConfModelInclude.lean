import HumphreyModel.Proofs.ConfClean
import HumphreyModel.Spec.ConfModel

/-!
Files whose `server` section uses `include` (one level): the included nodes are spliced in
place, in order.
-/
namespace Humphrey.Conf
open Humphrey.Glob

theorem cfgrt_includeKey : includeKey = "include".toList := String.toList_ofList.symm

/-- `include` is shaped like a key. -/
theorem cfgrt_includeKey_shape : includeKey ≠ [] ∧ ∀ c ∈ includeKey, isWhitespace c = false ∧ c ≠ '#' :=
  ⟨by decide, by decide⟩

theorem contentOk_includeKey : ContentOk includeKey :=
  contentOk_of_no_ws cfgrt_includeKey_shape.1 cfgrt_includeKey_shape.2

/-- An `include "path"` line with its decoration: the nodes of the named file are put in its place. -/
theorem cfgrt_go_include (inc : Str → Str → Nat → Nat → Res ConfError (List Node)) (file : Str) (base : Nat)
    {d : Deco} (hd : d.ok) {path : Str} (hp : noHashNl path) {ns : List Node}
    (rest : List Str) (ln : Nat) (stack : List Frame) (cur : List Node)
    (hinc : inc path file (ln + d.pre.length + 1) (base + stack.length + 1) = .ok ns) :
    goLines inc file base (mkLines d (kvContent d includeKey (quoted path)) ++ rest) ln stack cur =
      goLines inc file base rest (ln + (mkLines d (kvContent d includeKey (quoted path))).length) stack
        (ns.reverse ++ cur) := by
  have hv := valueOk_quoted hp
  have hco := kvContent_ok hd contentOk_includeKey hv
  obtain ⟨raw, hc, hgo⟩ := go_mkLines inc file base hd hco.noHash hco.tight rest ln stack cur
  rw [Nat.add_assoc] at hinc
  rw [hgo, go_kv_split inc file base hc cfgrt_includeKey_shape hd.2.2.1 hv.tight hv.last,
    if_neg (not_not_intro cfgrt_includeKey), wildcard_quoted, innerSlice_quoted, mkLines_length, Nat.add_assoc]
  simp only [if_true, hinc]

theorem cfgrt_renderNodes_ne_nil (lay : Layout) (path : List Nat) (i : Nat) (n : Node) (ns : List Node) :
    renderNodes lay path i (n :: ns) ≠ [] := by
  have hm : ∀ (d : Deco) (c : Str) (l : List Str), mkLines d c ++ l ≠ [] := fun d c l h => by simp [mkLines] at h
  cases n <;> simp only [renderNodes, renderNode, List.append_assoc] <;> exact hm _ _ _

/-- The loop over the lines of an included file (its text and the `"\n}"` that `include` appends)
returns the nodes the text holds. -/
theorem cfgrt_go_included (inc : Str → Str → Nat → Nat → Res ConfError (List Node)) (path : Str) (depth : Nat)
    (flay : Layout) (hl : flay.ok) (ns : List Node) (hwf : WFNodes ns) (hdepth : depth + nodesDepth ns ≤ maxDepth) :
    goLines inc path depth (splitLines (includedText flay ns ++ ['\n', '}'])) 0 [] [] = .ok ns := by
  cases ns with
  | nil =>
    -- an empty file: `"\n}"` is an empty line and the closing brace
    have e : splitLines (includedText flay [] ++ ['\n', '}']) = [[], ['}']] := by
      show splitLines ['\n', '}'] = _
      decide
    rw [e, go_blank _ _ _ (by decide), go_close_done _ _ _ (by decide)]
    rfl
  | cons n ns =>
    have e : splitLines (includedText flay (n :: ns) ++ ['\n', '}']) =
        renderNodes flay [] 0 (n :: ns) ++ [['}']] := by
      rw [includedText, ← joinLines_snoc _ (cfgrt_renderNodes_ne_nil flay [] 0 n ns)]
      exact splitLines_joinLines _ (by simp)
        (List.forall_mem_append.mpr
          ⟨clean_renderNodes flay hl _ hwf [] 0, fun l h => List.mem_singleton.mp h ▸ clean_brace⟩)
        (by simp)
    rw [e, go_renderNodes _ path depth flay hl _ hwf [] 0 [['}']] 0 [] [] (by simpa using hdepth),
      go_close_done _ _ _ (by decide)]
    simp

/-- `include` of a file that holds the rendering of well-formed nodes returns those nodes. -/
theorem cfgrt_parseFile_included (fs : FS) (fuel : Nat) (path cf : Str) (line depth : Nat)
    (flay : Layout) (ns : List Node) (hfs : fs path = .text (includedText flay ns)) (hl : flay.ok)
    (hwf : WFNodes ns) (hdepth : depth + nodesDepth ns ≤ maxDepth) :
    parseFile fs (fuel + 1) path cf line depth = .ok ns := by
  have hd : ¬ depth > maxDepth := by omega
  unfold parseFile
  simp only [hd, if_false, hfs]
  exact cfgrt_go_included _ path depth flay hl ns hwf hdepth

/-- One piece at the root of the main file: its lines are read as the nodes it stands for. -/
theorem cfgrt_go_piece (fs : FS) (file : Str) (lay : Layout) (hl : lay.ok) {p : Piece} (hp : p.WF fs)
    (i : Nat) (rest : List Str) (ln : Nat) (cur : List Node) :
    goLines (parseFile fs (maxDepth + 2)) file 0 (p.lines lay i ++ rest) ln [] cur =
      goLines (parseFile fs (maxDepth + 2)) file 0 rest (ln + (p.lines lay i).length) []
        (p.denote.reverse ++ cur) := by
  cases p with
  | nodes ns => exact go_renderNodes _ file 0 lay hl ns hp.1 [i] 0 _ ln [] cur (by simpa using hp.2)
  | incl path flay ns =>
    obtain ⟨h1, h2, h3, h4, h5⟩ := hp
    exact cfgrt_go_include _ file 0 (hl [i]).1 h1 _ ln [] cur
      (cfgrt_parseFile_included fs (maxDepth + 1) path file _ _ flay ns h5 h2 h3 (by simpa using h4))

theorem cfgrt_go_pieces (fs : FS) (file : Str) (lay : Layout) (hl : lay.ok) (ps : List Piece)
    (hwf : ∀ p ∈ ps, p.WF fs) (i : Nat) (rest : List Str) (ln : Nat) (cur : List Node) :
    goLines (parseFile fs (maxDepth + 2)) file 0 (renderPieces lay i ps ++ rest) ln [] cur =
      goLines (parseFile fs (maxDepth + 2)) file 0 rest (ln + (renderPieces lay i ps).length) []
        ((piecesDenote ps).reverse ++ cur) := by
  induction ps generalizing i ln cur with
  | nil => simp [renderPieces, piecesDenote]
  | cons p ps ih =>
    simp only [renderPieces, piecesDenote, List.append_assoc]
    rw [cfgrt_go_piece fs file lay hl (hwf p List.mem_cons_self),
      ih fun q hq => hwf q (List.mem_cons_of_mem _ hq)]
    simp only [List.length_append, List.reverse_append, List.append_assoc]
    congr 1
    omega

theorem cfgrt_parseConfLines_pieces (fs : FS) (file : Str) (lay : Layout) (hl : lay.ok) (ps : List Piece)
    (hwf : ∀ p ∈ ps, p.WF fs) :
    parseConfLines fs (piecesLines lay ps) file = .ok (.section "server".toList (piecesDenote ps)) := by
  have e : "server {".toList = serverLine := rfl
  rw [piecesLines, e, List.append_assoc, parseConfLines_server fs file (hl []).1,
    cfgrt_go_pieces fs file lay hl ps hwf 0, go_close_done_line _ file 0 (hl []).2]
  simp [finishServer]

theorem cfgrt_clean_pieces (fs : FS) (lay : Layout) (hl : lay.ok) (ps : List Piece) (hwf : ∀ p ∈ ps, p.WF fs)
    (i : Nat) : ∀ l ∈ renderPieces lay i ps, lineClean l := by
  induction ps generalizing i with
  | nil => intro l h; simp [renderPieces] at h
  | cons p ps ih =>
    intro l h
    simp only [renderPieces, List.mem_append] at h
    rcases h with h | h
    · have hp := hwf p (by simp)
      cases p with
      | nodes ns => exact clean_renderNodes lay hl ns hp.1 [i] 0 l h
      | incl path flay ns =>
        exact (kvContent_ok (hl [i]).1 contentOk_includeKey (valueOk_quoted hp.1)).lines (hl [i]).1 l h
    · exact ih (fun q hq => hwf q (by simp [hq])) (i + 1) l h

end Humphrey.Conf
