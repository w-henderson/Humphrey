import HumphreyModel.Proofs.WsMsgNb
import HumphreyModel.Spec.WsMsg

/-!
The handler loop `while let Ok(m) = stream.recv() {…}` run on a client script (a list of well-formed
frames, delivered in any segmentation with any pauses, possibly followed by a truncated frame):
it delivers `Spec.messages` and writes `Spec.replies`. The induction is over the frames still to
come, from any point inside a `recv` call (`recvLoop_conversation`); whole calls, `recvAll` and
`serve` are instances.
-/

namespace Humphrey.WsMsg
open Humphrey.WsFrame Humphrey.WsFrame.Spec Humphrey.WsMsg.Spec

theorem encodeFrame_fun : encodeFrame = rfc6455Layout := funext encodeFrame_eq_layout

theorem wire_cons (f : Frame) (fs : List Frame) : wire (f :: fs) = encodeFrame f ++ wire fs := by
  simp [wire, encodeFrame_fun]

theorem reply_eq_new (o : Opcode) (p : Bytes) : reply o p = Frame.new o p := rfl

theorem write_reply_outbound (c : Conn) (o : Opcode) (p : Bytes) :
    (c.write (encodeFrame (Frame.new o p))).outbound = c.outbound ++ [rfc6455Layout (reply o p)] := by
  rw [encodeFrame_fun, reply_eq_new]; rfl

theorem messagesFrom_cons (cur : Option Msg) (f : Frame) (fs : List Frame) :
    messagesFrom cur (f :: fs) =
      if f.opcode = .ping then messagesFrom cur fs
      else if f.opcode = .pong then messagesFrom cur fs
      else if f.opcode = .close then []
      else if f.fin then extend cur f :: messagesFrom none fs
      else messagesFrom (some (extend cur f)) fs := by
  cases h : f.opcode <;> simp [messagesFrom, h]

theorem replies_cons (f : Frame) (fs : List Frame) :
    replies (f :: fs) =
      if f.opcode = .ping then reply .pong f.payload :: replies fs
      else if f.opcode = .close then [reply .close f.payload]
      else replies fs := by
  cases h : f.opcode <;> simp [replies, h]

theorem hasClose_cons (f : Frame) (fs : List Frame) :
    hasClose (f :: fs) = (decide (f.opcode = .close) || hasClose fs) := rfl

theorem hasClose_append (a b : List Frame) : hasClose (a ++ b) = (hasClose a || hasClose b) := by
  simp [hasClose]

theorem replies_append (pre : List Frame) (hpre : hasClose pre = false) (rest : List Frame) :
    replies (pre ++ rest) = replies pre ++ replies rest := by
  induction pre with
  | nil => rfl
  | cons f fs ih =>
    rw [hasClose_cons, Bool.or_eq_false_iff, decide_eq_false_iff_not] at hpre
    simp only [List.cons_append, replies_cons, hpre.1, if_false, ih hpre.2]
    split <;> rfl

theorem messagesFrom_append_close (pre : List Frame) (hpre : hasClose pre = false) (cl : Frame)
    (hcl : cl.opcode = .close) (post : List Frame) (cur : Option Msg) :
    messagesFrom cur (pre ++ cl :: post) = messagesFrom cur pre := by
  induction pre generalizing cur with
  | nil => simp [messagesFrom_cons, hcl, messagesFrom]
  | cons f fs ih =>
    rw [hasClose_cons, Bool.or_eq_false_iff] at hpre
    simp only [List.cons_append, messagesFrom_cons, ih hpre.2]

/-- The fragments collected so far, as the specification sees them. -/
def curOf (acc : List Frame) : Option Msg :=
  match acc with
  | [] => none
  | a :: _ => some ⟨a.opcode == .text, (acc.map (·.payload)).flatten⟩

theorem curOf_snoc (acc : List Frame) (g : Frame) :
    curOf (acc ++ [g]) = some (extend (curOf acc) g) := by
  cases acc with
  | nil => simp [curOf, extend]
  | cons a as => simp [curOf, extend]

theorem assemble_snoc (acc : List Frame) (g : Frame) :
    assemble (acc ++ [g]) = .message (extend (curOf acc) g).text (extend (curOf acc) g).payload := by
  cases acc with
  | nil => simp [assemble, curOf, extend]
  | cons a as => simp [assemble, curOf, extend]

theorem wantMore_snoc (acc : List Frame) (g : Frame) : wantMore (acc ++ [g]) = !g.fin := by
  simp [wantMore]

theorem wantMore_nil : wantMore [] = true := rfl

/-! A decoded frame is the client's up to the key (`Frame.normKey`); the loops never look at the key. -/

theorem normKey_fin (f : Frame) : f.normKey.fin = f.fin := rfl

theorem normKey_payload (f : Frame) : f.normKey.payload = f.payload := rfl

theorem extend_normKey (cur : Option Msg) (f : Frame) : extend cur f.normKey = extend cur f := by
  cases cur <;> rfl

/-- A client script: any list of frames whose length field is the payload length (< 2^64). Opcodes,
FIN/RSV bits, masking keys, payloads and their sizes are arbitrary. -/
def ClientScript (fs : List Frame) : Prop := ∀ f ∈ fs, f.wf

/-- The connection `c` is about to receive the script `fs` — in any segmentation, with any pauses —
followed by `tail`, which is nothing or a frame cut short by an abrupt disconnect. -/
def Arrives (c : Conn) (fs : List Frame) (tail : Bytes) : Prop :=
  Delivers c.inbound (wire fs ++ tail) ∧ Truncated tail

theorem dataBytes_length_le_evSize (s : List Ev) : (dataBytes s).length ≤ evSize s := by
  induction s with
  | nil => simp [dataBytes, evSize]
  | cons e s ih => cases e <;> simp [dataBytes, evSize] <;> omega

theorem wire_length_ge (fs : List Frame) : 2 * fs.length ≤ (wire fs).length := by
  induction fs with
  | nil => simp [wire]
  | cons f fs ih =>
    have : (wire (f :: fs)).length = (rfc6455Layout f).length + (wire fs).length := by
      simp [wire]
    have h2 : 2 ≤ (rfc6455Layout f).length := by simp [rfc6455Layout]
    simp only [List.length_cons]; omega

/-- The fuel `recv` gives its loop covers an iteration per frame of the script. -/
theorem length_add_two_le_fuelFor {c : Conn} {fs : List Frame} {tail : Bytes}
    (h : Delivers c.inbound (wire fs ++ tail)) : fs.length + 2 ≤ fuelFor c := by
  have h1 := dataBytes_length_le_evSize c.inbound
  have h2 := wire_length_ge fs
  rw [h.2, List.length_append] at h1
  unfold fuelFor; omega

def msgPair (m : Msg) : Bool × Bytes := (m.text, m.payload)

/-- How the conversation ends for `recv`: the client's Close, or the end of the stream. -/
def ending (fs : List Frame) : Result :=
  .err (if hasClose fs then .connectionClosed else .readError)

theorem ending_cons {f : Frame} (fs : List Frame) (h : ¬ f.opcode = .close) :
    ending (f :: fs) = ending fs := by
  simp [ending, hasClose_cons, h]

/-- The handler loop after a first `recv` that returned `p`. -/
def thenRecvAll (fuel : Nat) (p : Result × Conn) : List (Bool × Bytes) × Result × Conn :=
  match p with
  | (.message t pl, c) =>
    let r := recvAll fuel c
    ((t, pl) :: r.1, r.2.1, r.2.2)
  | (r, c) => ([], r, c)

theorem recvAll_succ (fuel : Nat) (c : Conn) :
    recvAll (fuel + 1) c = thenRecvAll fuel (recvBlocking c) := rfl

/-- From a point inside a `recv` call (`acc` = the fragments collected so far) with the frames `fs`
still to come: the rest of this call and the calls after it deliver `messagesFrom (curOf acc) fs`. -/
theorem recvLoop_conversation (tail : Bytes) (htail : Truncated tail) :
    ∀ (fs : List Frame), ClientScript fs → ∀ (fuel calls : Nat) (c : Conn) (acc : List Frame),
      fs.length + 2 ≤ fuel → fs.length ≤ calls → wantMore acc = true →
      Delivers c.inbound (wire fs ++ tail) →
      ∃ c', thenRecvAll calls (noteClosed (recvLoop fuel c acc))
          = ((messagesFrom (curOf acc) fs).map msgPair, ending fs, c') ∧
        c'.outbound = c.outbound ++ (replies fs).map rfc6455Layout ∧
        c'.closed = (c.closed || hasClose fs) := by
  intro fs
  induction fs with
  | nil =>
    intro _ fuel calls c acc hfuel _ hwm hdel
    obtain ⟨k, rfl⟩ : ∃ k, fuel = k + 1 := ⟨fuel - 1, by omega⟩
    have hr := readFrame_error_of_flat hdel htail
    refine ⟨{ c with inbound := [] }, ?_, (List.append_nil _).symm, (Bool.or_false _).symm⟩
    simp only [recvLoop, hwm, if_true, hr]
    rfl
  | cons f fs ih =>
    intro hwf fuel calls c acc hfuel hcalls hwm hdel
    obtain ⟨k, rfl⟩ : ∃ k, fuel = k + 1 := ⟨fuel - 1, by omega⟩
    simp only [List.length_cons] at hfuel hcalls
    rw [wire_cons, List.append_assoc] at hdel
    -- decoding gives `f` back up to the key: opcode, FIN and payload are those of `f`
    obtain ⟨s, hr, hdel'⟩ := readFrame_encode f (hwf f (by simp)) _ hdel
    replace ih := ih (fun g hg => hwf g (List.mem_cons_of_mem _ hg))
    rw [recvLoop_succ, if_pos hwm, iter_ok hr, messagesFrom_cons, replies_cons, hasClose_cons]
    rcases onFrame_cases { c with inbound := s } acc f.normKey with
      ⟨(hop : f.opcode = .ping), e⟩ | ⟨(hop : f.opcode = .pong), e⟩ | ⟨(hop : f.opcode = .close), e⟩ |
      ⟨(hping : ¬ f.opcode = .ping), (hpong : ¬ f.opcode = .pong), (hcl : ¬ f.opcode = .close), e⟩ <;>
      rw [e]
    · obtain ⟨c', e', ho, hc⟩ := ih k calls
        ({ c with inbound := s }.write (encodeFrame (Frame.new .pong f.payload))) acc (by omega)
        (by omega) hwm hdel'
      simp only [hop, if_true, reduceCtorEq, decide_false, Bool.false_or,
        ending_cons fs (f := f) (by rw [hop]; decide)]
      exact ⟨c', e', by rw [ho, write_reply_outbound]; simp, hc⟩
    · obtain ⟨c', e', ho, hc⟩ := ih k calls { c with inbound := s, pongs := c.pongs + 1 } acc
        (by omega) (by omega) hwm hdel'
      simp only [hop, if_true, reduceCtorEq, if_false, decide_false, Bool.false_or,
        ending_cons fs (f := f) (by rw [hop]; decide)]
      exact ⟨c', e', ho, hc⟩
    · simp only [hop, if_true, reduceCtorEq, if_false, decide_true, Bool.true_or, Bool.or_true]
      refine ⟨{ ({ c with inbound := s }.write (encodeFrame (Frame.new .close f.payload))) with
        closed := true }, ?_, write_reply_outbound _ _ _, rfl⟩
      simp [noteClosed, thenRecvAll, ending, hasClose_cons, hop, normKey_payload]
    · simp only [hping, hpong, hcl, if_false, ending_cons fs hcl, decide_false, Bool.false_or]
      by_cases hf : f.fin = true
      · -- the message is complete: this call returns it, the next call starts afresh
        obtain ⟨j, rfl⟩ : ∃ j, k = j + 1 := ⟨k - 1, by omega⟩
        obtain ⟨a, rfl⟩ : ∃ a, calls = a + 1 := ⟨calls - 1, by omega⟩
        obtain ⟨c', e', ho, hc⟩ := ih (fuelFor { c with inbound := s }) a
          { c with inbound := s } [] (length_add_two_le_fuelFor hdel') (by omega) wantMore_nil hdel'
        refine ⟨c', ?_, ho, hc⟩
        have hwm' : wantMore (acc ++ [f.normKey]) = false := by
          rw [wantMore_snoc, normKey_fin, hf]; rfl
        simp only [recvLoop, hwm', Bool.false_eq_true, if_false, assemble_snoc, extend_normKey,
          noteClosed, reduceCtorEq, thenRecvAll, hf, if_true, List.map_cons]
        rw [recvAll_succ, recvBlocking, e']
        rfl
      · have hwm' : wantMore (acc ++ [f.normKey]) = true := by
          rw [wantMore_snoc, normKey_fin]; simpa using hf
        obtain ⟨c', e', ho, hc⟩ := ih k calls { c with inbound := s } (acc ++ [f.normKey])
          (by omega) (by omega) hwm' hdel'
        rw [curOf_snoc, extend_normKey] at e'
        simp only [hf, Bool.false_eq_true, if_false]
        exact ⟨c', e', ho, hc⟩

variable {fs : List Frame} {tail : Bytes} {c : Conn}

theorem recvAll_wire (hfs : ClientScript fs) (h : Arrives c fs tail) {fuel : Nat}
    (hfuel : fs.length + 1 ≤ fuel) :
    ∃ c', recvAll fuel c = ((messages fs).map msgPair, ending fs, c') ∧
      c'.outbound = c.outbound ++ (replies fs).map rfc6455Layout ∧
      c'.closed = (c.closed || hasClose fs) := by
  obtain ⟨k, rfl⟩ : ∃ k, fuel = k + 1 := ⟨fuel - 1, by omega⟩
  exact recvLoop_conversation tail h.2 fs hfs (fuelFor c) k c [] (length_add_two_le_fuelFor h.1) (by omega)
    wantMore_nil h.1

/-- The first `recv` can be read off what the handler loop collects. -/
theorem thenRecvAll_first (fuel : Nat) (p : Result × Conn) :
    p.1 = match (thenRecvAll fuel p).1 with
      | (t, pl) :: _ => .message t pl
      | [] => (thenRecvAll fuel p).2.1 := by
  obtain ⟨r, c⟩ := p
  cases r <;> rfl

/-- What one `recv` returns: the first message of the script, or how the conversation ends. -/
theorem recvBlocking_wire (hfs : ClientScript fs) (h : Arrives c fs tail) :
    (recvBlocking c).1 = match messages fs with
      | m :: _ => .message m.text m.payload
      | [] => ending fs := by
  obtain ⟨c', e, _⟩ := recvAll_wire hfs h (Nat.le_refl _)
  rw [thenRecvAll_first fs.length (recvBlocking c), ← recvAll_succ, e]
  cases messages fs <;> rfl

/-- **The whole conversation** (`while let Ok(m) = stream.recv() {…}`, then the stream is dropped). -/
theorem serve_wire (hfs : ClientScript fs) (hcl : c.closed = false) (h : Arrives c fs tail) :
    ∃ c', serve c = ((messages fs).map msgPair, ending fs, c') ∧
      c'.outbound = c.outbound ++ (replies fs).map rfc6455Layout ++
        (if hasClose fs then [] else [rfc6455Layout (reply .close [])]) := by
  have hfuel : fs.length + 1 ≤ fuelFor c := by have := length_add_two_le_fuelFor h.1; omega
  obtain ⟨c', e, ho, hc⟩ := recvAll_wire hfs h hfuel
  rw [hcl, Bool.false_or] at hc
  refine ⟨dropStream c', by simp [serve, e], ?_⟩
  unfold dropStream
  cases hh : hasClose fs with
  | true => rw [hh] at hc; simp [hc, ho]
  | false =>
    rw [hh] at hc
    simp [hc, ho, write_reply_outbound]

end Humphrey.WsMsg
