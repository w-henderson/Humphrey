import HumphreyModel.Proofs.ConfRound
import HumphreyModel.Proofs.ConfModelRoutes

/-!
The tree of a well-formed model is a well-formed tree (`WFTree`), so the tree-level
round trip applies to it.
-/
namespace Humphrey.Conf

theorem cfgrt_WFNodes_append (a b : List Node) : WFNodes (a ++ b) ↔ WFNodes a ∧ WFNodes b := by
  induction a with
  | nil => simp [WFNodes]
  | cons n a ih => simp [WFNodes, ih, and_assoc]

theorem cfgrt_depth_append (a b : List Node) : nodesDepth (a ++ b) = max (nodesDepth a) (nodesDepth b) := by
  induction a with
  | nil => simp [nodesDepth]
  | cons n a ih => simp [nodesDepth, ih, Nat.max_assoc]

def cfgrt_WFd (d : Nat) (ns : List Node) : Prop := WFNodes ns ∧ nodesDepth ns ≤ d

theorem cfgrt_WFd.nil (d : Nat) : cfgrt_WFd d [] := ⟨trivial, Nat.zero_le d⟩

theorem cfgrt_WFd.cons {d : Nat} {n : Node} {ns : List Node} (hn : WFNode n) (hd : nodeDepth n ≤ d)
    (h : cfgrt_WFd d ns) : cfgrt_WFd d (n :: ns) :=
  ⟨⟨hn, h.1⟩, Nat.max_le.mpr ⟨hd, h.2⟩⟩

theorem cfgrt_WFd.append {d : Nat} {a b : List Node} (ha : cfgrt_WFd d a) (hb : cfgrt_WFd d b) :
    cfgrt_WFd d (a ++ b) :=
  ⟨(cfgrt_WFNodes_append a b).mpr ⟨ha.1, hb.1⟩, cfgrt_depth_append a b ▸ Nat.max_le.mpr ⟨ha.2, hb.2⟩⟩

theorem cfgrt_WFd.mono {d d' : Nat} {ns : List Node} (h : cfgrt_WFd d ns) (hd : d ≤ d') : cfgrt_WFd d' ns :=
  ⟨h.1, Nat.le_trans h.2 hd⟩

/-- `okKey` with the word `include` spelled out, so that it can be decided for a given key. -/
theorem cfgrt_okKey {key : Str}
    (h : key ≠ [] ∧ (∀ c ∈ key, isWhitespace c = false ∧ c ≠ '#') ∧ key ≠ includeKey) : okKey key := by
  have e : "include".toList = includeKey := String.toList_ofList
  unfold okKey
  rw [e]
  exact h

/-- `okSectionName` with the two keywords spelled out. -/
theorem cfgrt_okSectionName {n : Str}
    (h : (∀ c ∈ n, c ≠ '#' ∧ c ≠ '\n') ∧ n.head?.map isWhitespace = some false ∧
      n.getLast?.map isWhitespace = some false ∧ ['r', 'o', 'u', 't', 'e', ' '].isPrefixOf n = false ∧
      ['h', 'o', 's', 't', ' '].isPrefixOf n = false) : okSectionName n := by
  refine ⟨h.1, tight_of_ends h.2.1 h.2.2.1, ?_, ?_⟩
  · rw [routePrefix, String.toList_ofList]; exact h.2.2.2.1
  · rw [hostPrefix, String.toList_ofList]; exact h.2.2.2.2

theorem cfgrt_wf_strKey {d : Nat} {key : Str} (hk : okKey key) {o : Option Str} (h : ∀ s, o = some s → noHashNl s) :
    cfgrt_WFd d (strKey key o) := by
  cases o with
  | none => exact .nil d
  | some s => exact .cons ⟨hk, h s rfl⟩ (Nat.zero_le d) (.nil d)

theorem cfgrt_wf_numKey {d : Nat} {key : Str} (hk : okKey key) {o : Option Nat} (h : ∀ n, o = some n → n < 2 ^ 63) :
    cfgrt_WFd d (numKey key o) := by
  cases o with
  | none => exact .nil d
  | some n =>
    have hn : (n : Int) ≤ i64Max := by have := h n rfl; simp only [i64Max]; omega
    exact .cons ⟨hk, by rw [parseI64_showNat hn]; rfl⟩ (Nat.zero_le d) (.nil d)

theorem cfgrt_wf_boolKey {d : Nat} {key : Str} (hk : okKey key) (o : Option Bool) :
    cfgrt_WFd d (boolKey key o) := by
  cases o with
  | none => exact .nil d
  | some b =>
    refine .cons ⟨hk, ?_⟩ (Nat.zero_le d) (.nil d)
    rw [String.toList_ofList, String.toList_ofList]
    cases b
    · exact .inr rfl
    · exact .inl rfl

theorem cfgrt_wf_optSection {d : Nat} {name : Str} (hn : okSectionName name) {cs : List Node}
    (h : cfgrt_WFd d cs) : cfgrt_WFd (d + 1) (optSection name cs) := by
  unfold optSection
  split
  · exact .nil _
  · exact .cons ⟨hn, h.1⟩ (Nat.succ_le_succ h.2) (.nil _)

theorem cfgrt_noHashNl_level (l : LogLevel) : noHashNl l.text := by
  cases l <;> (unfold noHashNl; decide)
theorem cfgrt_noHashNl_blmode (l : BlacklistMode) : noHashNl l.text := by
  cases l <;> (unfold noHashNl; decide)
theorem cfgrt_noHashNl_lbmode (l : LbMode) : noHashNl l.text := by
  cases l <;> (unfold noHashNl; decide)

theorem cfgrt_opt_map {α : Type} {o : Option α} {f : α → Str} (h : ∀ a, noHashNl (f a)) :
    ∀ s, o.map f = some s → noHashNl s := by
  intro s hs
  cases o with
  | none => cases hs
  | some a => cases hs; exact h a

theorem cfgrt_wf_scalarNodes {fs : FS} {c : Cfg} (h : c.WF fs) : cfgrt_WFd 1 c.scalarNodes := by
  have lt63 : ∀ {n}, n < 2 ^ 16 → n < 2 ^ 63 := fun h => Nat.lt_trans h (by decide)
  have hbl : ∀ s, c.blacklist.map (·.1) = some s → noHashNl s := by
    intro s hs
    cases hb : c.blacklist with
    | none => rw [hb] at hs; cases hs
    | some pi => rw [hb] at hs; cases hs; exact (h.blacklist pi.1 pi.2 hb).1
  unfold Cfg.scalarNodes
  refine .append (.append (.append (.append (.append (.append (.append ?_ ?_) ?_) ?_) ?_) ?_) ?_) ?_
  · exact cfgrt_wf_strKey (cfgrt_okKey (by decide)) h.address
  · exact cfgrt_wf_numKey (cfgrt_okKey (by decide)) fun n hn => lt63 (h.port n hn)
  · exact cfgrt_wf_numKey (cfgrt_okKey (by decide)) fun n hn => (h.threads n hn).2
  · exact cfgrt_wf_strKey (cfgrt_okKey (by decide)) h.websocket
  · exact cfgrt_wf_numKey (cfgrt_okKey (by decide)) h.timeout
  · exact cfgrt_wf_optSection (cfgrt_okSectionName (by decide))
      (.append (cfgrt_wf_strKey (cfgrt_okKey (by decide)) hbl)
        (cfgrt_wf_strKey (cfgrt_okKey (by decide)) (cfgrt_opt_map cfgrt_noHashNl_blmode)))
  · exact cfgrt_wf_optSection (cfgrt_okSectionName (by decide))
      (.append (.append (cfgrt_wf_strKey (cfgrt_okKey (by decide)) (cfgrt_opt_map cfgrt_noHashNl_level))
        (cfgrt_wf_boolKey (cfgrt_okKey (by decide)) c.logConsole))
        (cfgrt_wf_strKey (cfgrt_okKey (by decide)) h.logFile))
  · exact cfgrt_wf_optSection (cfgrt_okSectionName (by decide))
      (.append (cfgrt_wf_numKey (cfgrt_okKey (by decide)) h.cacheSize)
        (cfgrt_wf_numKey (cfgrt_okKey (by decide)) h.cacheTime))

theorem cfgrt_okRouteName {r : RouteCfg} (h : r.WF) : okRouteName (joinComma r.patterns) := by
  refine ⟨?_, cfgrt_joinComma_tight h.nonempty (fun p hp => (h.patterns p hp).1), fun e => h.notBrace ?_⟩
  · exact cfgrt_joinComma_chars (P := fun c => c ≠ '#' ∧ c ≠ '\n') (by decide)
      (fun p hp x hx => ((h.patterns p hp).2 x hx).2)
  · -- a lone `{` splits at commas into itself
    rw [← cfgrt_splitAll_joinComma _ h.nonempty fun p hp x hx => ((h.patterns p hp).2 x hx).1, e]
    rfl

theorem cfgrt_wf_target {d : Nat} {t : Target} (h : t.WF) : cfgrt_WFd d t.nodes := by
  cases t with
  | file p => exact .cons ⟨cfgrt_okKey (by decide), h⟩ (Nat.zero_le d) (.nil d)
  | directory p => exact .cons ⟨cfgrt_okKey (by decide), h⟩ (Nat.zero_le d) (.nil d)
  | redirect p => exact .cons ⟨cfgrt_okKey (by decide), h⟩ (Nat.zero_le d) (.nil d)
  | websocketOnly => exact .nil d
  | proxy ts mode =>
    have hj : noHashNl (joinComma ts) :=
      cfgrt_joinComma_chars (P := fun c => c ≠ '#' ∧ c ≠ '\n') (by decide) (fun t ht x hx => ((h.2 t ht) x hx).2)
    exact .cons ⟨cfgrt_okKey (by decide), hj⟩ (Nat.zero_le d)
      (cfgrt_wf_strKey (cfgrt_okKey (by decide)) (cfgrt_opt_map cfgrt_noHashNl_lbmode))

theorem cfgrt_wf_route {r : RouteCfg} (h : r.WF) : WFNode r.toNode ∧ nodeDepth r.toNode ≤ 1 :=
  have hcs : cfgrt_WFd 0 (r.target.nodes ++ strKey wsKey r.websocket) :=
    .append (cfgrt_wf_target h.target) (cfgrt_wf_strKey (cfgrt_okKey (by decide)) h.websocket)
  ⟨⟨cfgrt_okRouteName h, hcs.1⟩, Nat.succ_le_succ hcs.2⟩

theorem cfgrt_wf_routeNodes {rs : List RouteCfg} (h : ∀ r ∈ rs, r.WF) : cfgrt_WFd 1 (routeNodes rs) := by
  induction rs with
  | nil => exact .nil 1
  | cons r rs ih =>
    have hr := cfgrt_wf_route (h r List.mem_cons_self)
    exact .cons hr.1 hr.2 (ih fun q hq => h q (List.mem_cons_of_mem _ hq))

theorem cfgrt_wf_itemNodes {is : List Item} (h : ∀ i ∈ is, i.WF) : cfgrt_WFd 2 (itemNodes is) := by
  induction is with
  | nil => exact .nil 2
  | cons i is ih =>
    have ih' := ih fun q hq => h q (List.mem_cons_of_mem _ hq)
    cases i with
    | route r =>
      have hr := cfgrt_wf_route (r := r) (h (.route r) List.mem_cons_self)
      exact .cons hr.1 (Nat.le_succ_of_le hr.2) ih'
    | host hc =>
      have hh : hc.WF := h (.host hc) List.mem_cons_self
      have hrs := cfgrt_wf_routeNodes hh.routes
      exact .cons ⟨hh.name, hrs.1⟩ (Nat.succ_le_succ hrs.2) ih'

end Humphrey.Conf
