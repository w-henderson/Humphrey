import HumphreyModel.Proofs.HttpSim

/-!
# C02 — request parsing is faithful, segmentation-independent and round-trips

Model: `Model/Http.lean` (`parseRequest`, written once against `Source`), `Model/IO.lean`
(`Reader` = `BufReader` over a stream delivered in arbitrary chunks).

Proved here: independence of the segmentation for **every** input (well-formed or not),
case-insensitive lookup, the X-Forwarded-For rule. Faithfulness (`parse_render`), preservation of
same-named fields (`get_all_parsed`, `sorted_getAll`) and the serialise/parse round trip
(`roundtrip`, `parse_serialize_parse`) are in `Props/C02Faithful.lean`.
-/
namespace Humphrey.Http
open Humphrey Humphrey.IO

/-- **C02, segmentation independence.** For every byte stream — well-formed or not — and any two
ways of cutting it into reads, `Request::from_stream` returns the same result and leaves the
same bytes unread. -/
theorem parse_segmentation_independent (env : Env) (c₁ c₂ : List Bytes)
    (h : c₁.flatten = c₂.flatten) :
    OutRel (fun r₁ r₂ : Reader => r₁.rest = r₂.rest)
      (parseRequest readerSource env ⟨[], c₁⟩) (parseRequest readerSource env ⟨[], c₂⟩) :=
  parseRequest_sim reader_reader_sim env ⟨[], c₁⟩ ⟨[], c₂⟩ (by simp [Reader.rest, h])

/-- Header names are matched case-insensitively (ASCII). -/
theorem header_lookup_case_insensitive (hs : Headers) (n n' : Bytes)
    (h : Bytes.asciiLower n = Bytes.asciiLower n') :
    hs.get (HName.ofName n) = hs.get (HName.ofName n') ∧
    hs.getAll (HName.ofName n) = hs.getAll (HName.ofName n') := by
  simp [HName.ofName, h]

/-- `get_all` returns the values of the same-named fields in the order they were added. -/
theorem get_all_preserves_order (hs₁ hs₂ : Headers) (n : HName) :
    Headers.getAll (hs₁ ++ hs₂) n = hs₁.getAll n ++ hs₂.getAll n := by
  simp [Headers.getAll]

/-- **X-Forwarded-For rule.** With a forwarded list whose (trimmed) entries parse to the addresses
`ips ≠ []`, the origin is the last listed address and the proxies are the earlier ones followed
by the peer; with no parsable entry the peer itself is the origin. -/
theorem xff_origin_is_last (parseIp : Bytes → Option Ip) (hs : Headers) (fwd : Bytes) (peer : Ip)
    (port : Nat) (hx : hs.get hXff = some fwd) :
    let ips := (Bytes.splitOn 44 fwd).filterMap (fun e => parseIp (Bytes.trim e))
    Address.fromHeaders parseIp Bytes.trim hs peer port =
      match ips.getLast? with
      | some origin => ⟨origin, ips.dropLast ++ [peer], port⟩
      | none => ⟨peer, [], port⟩ := by
  simp only [Address.fromHeaders, hx]
  cases ((Bytes.splitOn 44 fwd).filterMap (fun e => parseIp (Bytes.trim e))).getLast? <;> rfl

theorem no_xff_peer_is_origin (parseIp : Bytes → Option Ip) (hs : Headers) (peer : Ip) (port : Nat)
    (hx : hs.get hXff = none) :
    Address.fromHeaders parseIp Bytes.trim hs peer port = ⟨peer, [], port⟩ := by
  simp [Address.fromHeaders, hx]

-- Two segmentations of one request, as the hypothesis of `parse_segmentation_independent` relates them.
example :
    (⟨[], [[71, 69, 84, 32, 47, 32, 72, 84], [84, 80, 47, 49, 46, 49, 13, 10, 13, 10]]⟩ : Reader).rest =
    (⟨[], [[71, 69, 84, 32, 47, 32, 72, 84, 84, 80, 47, 49, 46, 49, 13, 10, 13, 10]]⟩ : Reader).rest := rfl

end Humphrey.Http
