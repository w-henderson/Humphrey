import HumphreyModel.Proofs.Blacklist

/-!
# C19 — a blacklisted address never receives content

Model: `Model/Blacklist.lean` (`verify_connection`, `is_blacklisted`/`blacklist_check`, the four handlers with
the cache check behind the blacklist check, composed with `Address.fromHeaders` of C02).  The model is the code
AFTER the repair of D25 (the test looks at the origin address and at every proxy, the last of which is the
peer).  Spec: `Spec/Blacklist.lean` (`Holds`, on configuration, peer, forwarded addresses and observation).

Reading of "forwarded on behalf of a listed address": EVERY entry of the `X-Forwarded-For` field that parses
as an address counts, in any position and with any white space around it — not only the last one, which is
what `origin_addr` is.  Reason: the statement serves normally only clients "whose own and forwarded addresses
are all unlisted", so a request naming a listed address anywhere must not be served; and the repaired code
tests exactly the origin plus all proxies.  `forwarded_for_listed_403` is therefore stated for any entry.

All theorems quantify over every `parseIp` (`IpAddr::from_str`), list, mode, peer, header list, route of each
of the four types, and — for file and directory routes — every cache state, clock and key (`CacheCtx`;
cache off is `cache.limit = 0`).
-/
namespace Humphrey.Blacklist
open Humphrey Humphrey.Http Humphrey.BlacklistSpec

variable (parseIp : Bytes → Option Ip) (cfg : BlCfg) (peer : Ip) (hs : Headers) (route : Route)

/-- The decision table of the whole path, from which everything below is read off. -/
theorem handle_decision :
    handle parseIp cfg peer hs route =
      if peer ∈ cfg.list then (if cfg.mode = .block then .closedNoResponse else .forbidden403)
      else if ∃ a ∈ forwarded parseIp hs, a ∈ cfg.list then .forbidden403
      else route.unrefused := by
  unfold handle respond admits
  rw [dispatch_eq, isBlacklisted_fromHeaders]
  simp only [← any_listed_iff]
  simp only [← listed_iff]
  cases listed cfg peer <;> cases (forwarded parseIp hs).any (listed cfg) <;> cases cfg.mode <;> rfl

/-- **Block mode.** A listed peer is refused by the connection condition: nothing is answered, whatever the
request and the route. -/
theorem listed_peer_block_mode_closed (hl : peer ∈ cfg.list) (hm : cfg.mode = .block) :
    admits cfg peer = false ∧ ∀ hs route, handle parseIp cfg peer hs route = .closedNoResponse := by
  refine ⟨by simp [admits, (listed_iff cfg peer).2 hl, hm], fun hs route => ?_⟩
  rw [handle_decision, if_pos hl, if_pos hm]

/-- **Forbidden mode.** A listed peer is answered 403 by every route type, whatever headers it sends
(in particular whatever `X-Forwarded-For` says) and whatever the cache holds.  False of the origin-only
test (D25): see `forbidden_mode_bypass_before_repair` below. -/
theorem listed_peer_forbidden_mode_always_403 (hl : peer ∈ cfg.list) (hm : cfg.mode = .forbidden) :
    ∀ hs route, handle parseIp cfg peer hs route = .forbidden403 := by
  intro hs route
  rw [handle_decision, if_pos hl, if_neg (by simp [hm])]

/-- **Forwarded addresses.** If ANY comma-separated entry of the `X-Forwarded-For` field, after trimming
white space, parses to a listed address, every handler answers 403 (both modes, any peer); so does the whole
path for every admitted connection (every unlisted peer; every peer in `forbidden` mode). -/
theorem forwarded_for_listed_403 (fwd e : Bytes) (a : Ip) (hx : hs.get hXff = some fwd)
    (he : e ∈ Bytes.splitOn 44 fwd) (hpa : parseIp (Bytes.trim e) = some a) (hl : a ∈ cfg.list) :
    respond parseIp cfg peer hs route = .forbidden403 ∧
    (admits cfg peer = true → handle parseIp cfg peer hs route = .forbidden403) := by
  have hmem : a ∈ forwarded parseIp hs := by
    simp only [forwarded, hx, List.mem_filterMap]
    exact ⟨e, he, hpa⟩
  have hany : (forwarded parseIp hs).any (listed cfg) = true :=
    (any_listed_iff cfg _).2 ⟨a, hmem, hl⟩
  have hr : respond parseIp cfg peer hs route = .forbidden403 := by
    rw [respond, dispatch_eq, isBlacklisted_fromHeaders, hany, Bool.or_true, if_pos rfl]
  exact ⟨hr, fun hadm => by simp [handle, hadm, hr]⟩

/-- The same for an unlisted peer, in the form of the property's sentence. -/
theorem forwarded_for_listed_unlisted_peer_403 (a : Ip) (hp : peer ∉ cfg.list)
    (hmem : a ∈ forwarded parseIp hs) (hl : a ∈ cfg.list) :
    handle parseIp cfg peer hs route = .forbidden403 := by
  rw [handle_decision, if_neg hp, if_pos ⟨a, hmem, hl⟩]

/-- **Unlisted clients are served normally.** If neither the peer nor any forwarded address is listed, the
answer is what the route gives when the check has passed — the same answer as under an empty blacklist —
and it is content unless `Cache::get` panics (C16: only when the clock went backwards). -/
theorem unlisted_served (hp : peer ∉ cfg.list) (hf : ∀ a ∈ forwarded parseIp hs, a ∉ cfg.list) :
    handle parseIp cfg peer hs route = route.unrefused ∧
    handle parseIp cfg peer hs route = handle parseIp { cfg with list := [] } peer hs route ∧
    (route.lookupOk → ∃ k, handle parseIp cfg peer hs route = .served k) := by
  have h1 : handle parseIp cfg peer hs route = route.unrefused := by
    rw [handle_decision, if_neg hp, if_neg (fun ⟨a, ha, hl⟩ => hf a ha hl)]
  have h2 : handle parseIp { cfg with list := [] } peer hs route = route.unrefused := by
    rw [handle_decision]; simp
  exact ⟨h1, by rw [h1, h2], fun hok => by rw [h1]; exact unrefused_served route hok⟩

/-- **C19, the title alone, with no side condition:** whoever is listed — as the connecting address or as any
forwarded address — observes no content, for every mode, route type, header list and cache state. -/
theorem listed_never_content :
    NoContentToListed cfg.list peer (forwarded parseIp hs) (handle parseIp cfg peer hs route).obs := by
  intro ⟨a, ha, hal⟩
  rw [handle_decision]
  by_cases hp : peer ∈ cfg.list
  · rw [if_pos hp]
    split <;> nofun
  · rcases List.mem_cons.1 ha with rfl | ha
    · exact absurd hal hp
    · rw [if_neg hp, if_pos ⟨a, ha, hal⟩]
      nofun

/-- **The check precedes the cache.** Whatever the cache holds for the requested key — in particular a fresh
entry `it` that `cache_check` would return — a client that is listed (as peer or through any forwarded
address) is never answered from it, on the file route and on the directory route. -/
theorem check_precedes_cache (hl : ∃ a ∈ peer :: forwarded parseIp hs, a ∈ cfg.list)
    (cc : CacheCtx) (rest : String) :
    (∀ k, handle parseIp cfg peer hs (.file cc rest) ≠ .served k) ∧
    (∀ k, handle parseIp cfg peer hs (.directory cc rest) ≠ .served k) := by
  have key : ∀ r : Route, ∀ k, handle parseIp cfg peer hs r ≠ .served k := fun r k h =>
    listed_never_content parseIp cfg peer hs r hl (by rw [h]; rfl)
  exact ⟨key _, key _⟩

/-- … while the very same cache entry does reach a client nobody has listed (so `check_precedes_cache` is not
about an unreachable branch). -/
theorem cache_reaches_unlisted (hp : peer ∉ cfg.list) (hf : ∀ a ∈ forwarded parseIp hs, a ∉ cfg.list)
    (cc : CacheCtx) (rest : String) (it : Cache.Item) (hit : cacheCheck cc = .ok (some it)) :
    handle parseIp cfg peer hs (.file cc rest) = .served (.cached it) ∧
    handle parseIp cfg peer hs (.directory cc rest) = .served (.cached it) := by
  constructor <;>
  · rw [(unlisted_served parseIp cfg peer hs _ hp hf).1]
    simp [Route.unrefused, afterCheckStatic, hit]

/-- **C19 as one statement over the specification predicate.** For every configuration, peer, header list
and route (whose cache lookup does not panic), what the client observes is what `BlacklistSpec.Holds` demands:
closed / 403 / 403 / content in the four cases of the property. -/
theorem never_content_to_listed (hok : route.lookupOk) :
    Holds (cfg.mode == .block) cfg.list peer (forwarded parseIp hs)
      (handle parseIp cfg peer hs route).obs := by
  refine ⟨fun hl hm => ?_, fun hl hm => ?_, fun hp hf => ?_, fun hp hf => ?_⟩ <;> rw [handle_decision]
  · rw [if_pos hl, if_pos (by simpa using hm)]; rfl
  · rw [if_pos hl, if_neg (by simpa using hm)]; rfl
  · rw [if_neg hp, if_pos hf]; rfl
  · obtain ⟨k, hk⟩ := unrefused_served route hok
    rw [if_neg hp, if_neg (fun ⟨a, ha, hl⟩ => hf a ha hl), hk]; rfl

/-- The observation is the one `BlacklistSpec.expected` computes. -/
theorem obs_eq_expected (hok : route.lookupOk) :
    (handle parseIp cfg peer hs route).obs =
      expected (cfg.mode == .block) cfg.list peer (forwarded parseIp hs) :=
  (holds_iff_expected _ _ _ _ _).1 (never_content_to_listed parseIp cfg peer hs route hok)

/-! ## Non-vacuity and the defect witness

Addresses as the bytes of their canonical text; `some` as `parseIp` (every entry is an address).
`127.0.0.5` = `[49,50,55,46,48,46,48,46,53]`, `10.0.0.9` = `[49,48,46,48,46,48,46,57]`,
`8.8.8.8` = `[56,46,56,46,56,46,56]`, `::1` = `[58,58,49]`, `2001:db8::7` = `[50,48,48,49,58,100,98,56,58,58,55]`. -/

private def ip5 : Ip := [49, 50, 55, 46, 48, 46, 48, 46, 53]
private def ip9 : Ip := [49, 48, 46, 48, 46, 48, 46, 57]
private def ip8 : Ip := [56, 46, 56, 46, 56, 46, 56]
private def ipL : Ip := [58, 58, 49]
private def ipDb : Ip := [50, 48, 48, 49, 58, 100, 98, 56, 58, 58, 55]
/-- list = {127.0.0.5, ::1, 2001:db8::7} -/
private def cfgF : BlCfg := ⟨.forbidden, [ip5, ipL, ipDb]⟩
private def cfgB : BlCfg := ⟨.block, [ip5, ipL, ipDb]⟩
/-- `X-Forwarded-For: 8.8.8.8` -/
private def xff8 : Headers := [⟨hXff, ip8⟩]
/-- `X-Forwarded-For:  2001:db8::7 ,8.8.8.8` (a listed IPv6 address first, spaces around it) -/
private def xffDb8 : Headers := [⟨hXff, [32] ++ ipDb ++ [32, 44] ++ ip8⟩]
/-- `X-Forwarded-For: 8.8.8.8,  ::1` -/
private def xff8L : Headers := [⟨hXff, ip8 ++ [44, 32, 32] ++ ipL⟩]

/-- **D25, the defect.** With the unrepaired test (`origin_addr` only) a listed peer in `forbidden` mode that
sends `X-Forwarded-For: 8.8.8.8` is served: `listed_peer_forbidden_mode_always_403` was false of the code. -/
theorem forbidden_mode_bypass_before_repair :
    ip5 ∈ cfgF.list ∧ respondOld some cfgF ip5 xff8 "index.html" = .served (.fresh "index.html") := by
  constructor
  · decide
  · simp [respondOld, isBlacklistedOld_fromHeaders, forwarded, xff8, Headers.get, listed, cfgF]
    decide

/-- The same request on the repaired path: 403 on all four route types (hypotheses of
`listed_peer_forbidden_mode_always_403` are satisfiable). -/
example : handle some cfgF ip5 xff8 (.proxy "up") = .forbidden403 ∧
    handle some cfgF ip5 xff8 (.redirect "to") = .forbidden403 ∧
    handle some cfgF ipL [] (.proxy "up") = .forbidden403 :=
  ⟨listed_peer_forbidden_mode_always_403 some cfgF ip5 (by decide) rfl _ _,
   listed_peer_forbidden_mode_always_403 some cfgF ip5 (by decide) rfl _ _,
   listed_peer_forbidden_mode_always_403 some cfgF ipL (by decide) rfl _ _⟩

/-- Block mode: the listed IPv6 loopback peer is refused; an unlisted peer is admitted. -/
example : admits cfgB ipL = false ∧ admits cfgB ip9 = true ∧ admits cfgF ipL = true := by decide

/-- A listed address in a non-final position, with spaces, from an unlisted peer, in block mode: 403.
(The origin-only test looks at `8.8.8.8` alone and serves the request.) -/
example : forwarded some xffDb8 = [ipDb, ip8] ∧
    handle some cfgB ip9 xffDb8 (.proxy "up") = .forbidden403 := by
  have h : forwarded some xffDb8 = [ipDb, ip8] := by decide
  exact ⟨h, forwarded_for_listed_unlisted_peer_403 some cfgB ip9 xffDb8 _ ipDb (by decide)
    (by rw [h]; decide) (by decide)⟩

/-- The listed address as the last entry (the origin), after two spaces. -/
example : handle some cfgF ip9 xff8L (.redirect "to") = .forbidden403 :=
  forwarded_for_listed_unlisted_peer_403 some cfgF ip9 xff8L _ ipL (by decide)
    (by decide) (by decide)

/-- Nobody listed: served, from the cache when it holds a fresh entry, else by the rest of the handler. -/
example : handle some cfgF ip9 xff8 (.file ⟨3, ⟨4, 60, 3, [⟨"/a", 0, 2, 2, [5, 6, 7]⟩]⟩, "/a", 0⟩ "a.txt") =
    .served (.cached ⟨"/a", 0, 2, 2, [5, 6, 7]⟩) := by
  refine (cache_reaches_unlisted some cfgF ip9 xff8 (by decide) (by decide) _ _ _ ?_).1
  simp [cacheCheck, Cache.get, Cache.find, Cache.isKey]

example : handle some cfgF ip9 xff8 (.directory ⟨3, Cache.empty 0 0, "/a", 0⟩ "a.txt") =
    .served (.fresh "a.txt") := by
  rw [(unlisted_served some cfgF ip9 xff8 _ (by decide) (by decide)).1]
  simp [Route.unrefused, afterCheckStatic, cacheCheck, Cache.empty]

/-- The same cache entry and a listed peer: 403, not the cached bytes. -/
example : handle some cfgF ip5 xff8 (.file ⟨3, ⟨4, 60, 3, [⟨"/a", 0, 2, 2, [5, 6, 7]⟩]⟩, "/a", 0⟩ "a.txt") =
    .forbidden403 :=
  listed_peer_forbidden_mode_always_403 some cfgF ip5 (by decide) rfl _ _

end Humphrey.Blacklist
