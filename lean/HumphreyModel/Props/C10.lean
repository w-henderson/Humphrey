import HumphreyModel.Proofs.WsFrameDecode

/-!
# C10 — WebSocket frames encode to the RFC 6455 layout and decode back under any split

Property theorems only. Model: `Model/WsFrame.lean` (`encodeFrame` = `From<Frame> for Vec<u8>`,
`decodeFrame` = `Frame::from_stream` over a script of reads, `messageToFrame` = `Message::to_frame`).
Spec: `Spec/WsFrame.lean` (`rfc6455Layout`, written from RFC 6455 sections 5.2 and 5.3).

A *split into reads* of a byte string `bs` is a list of chunks `s` with `s.flatten = bs`, every chunk
non-empty (`NonEmptyReads s`: a `read` that returns 0 bytes means end of stream to `read_exact`).
`Frame.wf f`: `f.length = f.payload.length` and `f.length < 2^64`.
`Frame.normKey f`: `f` itself when `f.mask`; with the all-zero key otherwise (no key is on the wire).
No theorem below bounds the payload length otherwise; the length classes 0–125 / 126–65535 / 65536– are
case splits inside the proofs (`lengthField_eq`, `readLength_ext`).
-/
namespace Humphrey.WsFrame
open Spec

/-- **C10, layout.** The encoder produces exactly the RFC 6455 section 5.2 octets: FIN/RSV/opcode
octet, MASK bit and the minimal 7 / 7+16 / 7+64-bit length form, masking key when masked, payload
XOR key (section 5.3) when masked. The two hypotheses are those of the property's text; the equation
needs neither (`encode_eq_layout_any`). -/
theorem encode_eq_layout (f : Frame) (_hlen : f.length = f.payload.length)
    (_h64 : f.length < 2 ^ 64) : encodeFrame f = rfc6455Layout f :=
  encodeFrame_eq_layout f

/-- The same without the hypotheses: the equation also holds for frames whose length field is not
the payload length (where the RFC gives the octets no meaning). -/
theorem encode_eq_layout_any (f : Frame) : encodeFrame f = rfc6455Layout f :=
  encodeFrame_eq_layout f

/-- **C10, round trip.** For every well-formed frame, every split of its encoding into non-empty
reads, and any bytes `tail` following it on the stream: decoding returns the frame, with the
original (unmasked) payload, and leaves exactly `tail` unread. -/
theorem decode_encode_tail (f : Frame) (hwf : f.wf) (tail : Bytes) (s : List Bytes)
    (hne : NonEmptyReads s) (hs : s.flatten = encodeFrame f ++ tail) :
    ∃ rest, decodeFrame s = .ok (f.normKey, rest) ∧ NonEmptyReads rest ∧ rest.flatten = tail := by
  apply decodeFrame_ok_of_flat hne
  rw [hs, decodeFlat_encode_append f hwf]

/-- **C10, round trip** (the statement's form): decoding the encoded frame under any split into
non-empty reads returns the frame and consumes everything. -/
theorem decode_encode (f : Frame) (hwf : f.wf) (s : List Bytes) (hne : NonEmptyReads s)
    (hs : s.flatten = encodeFrame f) : decodeFrame s = .ok (f.normKey, []) := by
  obtain ⟨rest, h, hne', hfl⟩ := decode_encode_tail f hwf [] s hne (by simpa using hs)
  rw [h, nonEmptyReads_flatten_nil hne' hfl]

/-- A masked frame comes back identical (key included), payload unmasked. -/
theorem decode_encode_masked (f : Frame) (hwf : f.wf) (hm : f.mask = true) (s : List Bytes)
    (hne : NonEmptyReads s) (hs : s.flatten = encodeFrame f) : decodeFrame s = .ok (f, []) := by
  have h := decode_encode f hwf s hne hs
  have : f.normKey = f := by
    obtain ⟨_, _, _, _, _, m, _, _, _⟩ := f
    simp only at hm; subst hm; rfl
  rwa [this] at h

/-- The length the decoder commits to before it reads the payload (the model's `alloc` record; the Rust
code reads with `take(length).read_to_end`, see `Props/C03Bounds.lean`) is the frame's own length. -/
theorem decode_encode_alloc (f : Frame) (hwf : f.wf) (s : List Bytes) (hne : NonEmptyReads s)
    (hs : s.flatten = encodeFrame f) : (decodeFrameFull s).alloc = some f.length := by
  have h := decodeFlat_encode_append f hwf []
  rw [List.append_nil] at h
  rw [(observe_decodeFrame s hne).2, hs, h]

/-- **C10, segmentation independence.** What a decode returns (frame or error, bytes left unread,
length committed to) depends only on the bytes of the stream, not on how they are cut into reads. -/
theorem decode_chunking_independent (s₁ s₂ : List Bytes) (h₁ : NonEmptyReads s₁)
    (h₂ : NonEmptyReads s₂) (h : s₁.flatten = s₂.flatten) :
    observe (decodeFrame s₁) = observe (decodeFrame s₂) ∧
    (decodeFrameFull s₁).alloc = (decodeFrameFull s₂).alloc := by
  obtain ⟨a1, b1⟩ := observe_decodeFrame s₁ h₁
  obtain ⟨a2, b2⟩ := observe_decodeFrame s₂ h₂
  rw [a1, a2, b1, b2, h]
  exact ⟨rfl, rfl⟩

/-- **C10, truncation.** Every proper prefix of an encoded frame, under any split into non-empty
reads, is answered with `ReadError` (the opcode of a `Frame` is always a valid one). -/
theorem decode_truncated (f : Frame) (hwf : f.wf) (n : Nat) (hn : n < (encodeFrame f).length)
    (s : List Bytes) (hne : NonEmptyReads s) (hs : s.flatten = (encodeFrame f).take n) :
    decodeFrame s = .error .readError := by
  apply decodeFrame_error_of_flat hne
  rw [hs, decodeFlat_take_encode_lt f hwf n hn]

/-- The same with the prefix delivered by a single read (`n = 0`: a read that returns nothing). -/
theorem decode_truncated_single (f : Frame) (hwf : f.wf) (n : Nat)
    (hn : n < (encodeFrame f).length) :
    decodeFrame [(encodeFrame f).take n] = .error .readError := by
  cases n with
  | zero => simp [decodeFrame, decodeFrameFull, decodeWith, readExact]
  | succ n =>
    apply decode_truncated f hwf (n + 1) hn
    · intro c hc
      rw [List.mem_singleton] at hc
      subst hc
      intro h0
      have h1 : ((encodeFrame f).take (n + 1)).length = 0 := by rw [h0]; rfl
      rw [List.length_take] at h1
      omega
    · simp

/-- **C10, reserved opcodes.** A header whose opcode nibble is one of 3–7, 0xB–0xF is rejected with
`InvalidOpcode`, whatever the second byte and whatever follows, under any split. -/
theorem reserved_opcode_rejected (b0 b1 : UInt8) (rest : Bytes)
    (hres : reservedOpcode (b0 &&& 0xF).toNat = true) (s : List Bytes) (hne : NonEmptyReads s)
    (hs : s.flatten = b0 :: b1 :: rest) : decodeFrame s = .error .invalidOpcode := by
  apply decodeFrame_error_of_flat hne
  rw [hs, decodeFlat_reserved b0 b1 rest hres]

/-- `reservedOpcode` spelled out: the nibbles 3,4,5,6,7,11,12,13,14,15. -/
theorem reservedOpcode_iff (n : Nat) :
    reservedOpcode n = true ↔ n ∈ [3, 4, 5, 6, 7, 0xB, 0xC, 0xD, 0xE, 0xF] := by
  simp only [reservedOpcode, Bool.or_eq_true, Bool.and_eq_true, decide_eq_true_eq, List.mem_cons,
    List.not_mem_nil, or_false]
  omega

/-- `Opcode::try_from` accepts exactly the six opcodes the RFC defines, with the RFC's numbers. -/
theorem opcode_table :
    (∀ n, n < 16 → (Opcode.ofNat? n).isNone = reservedOpcode n) ∧
    (∀ o : Opcode, Opcode.ofNat? (opcodeCode o) = some o ∧ o.toNat = opcodeCode o) := by
  refine ⟨ofNat?_table, fun o => ?_⟩
  cases o <;> exact ⟨rfl, rfl⟩

/-- **C10, `Message::to_frame`.** A single unfragmented frame: FIN = 1, RSV1–3 = 0, opcode text (1)
or binary (2), MASK = 0, no key, the minimal length form, the payload as it is. -/
theorem to_frame_unmasked_single (text : Bool) (payload : Bytes) :
    messageToFrame text payload
      = [if text then 0x81 else 0x82, UInt8.ofNat (lengthField payload.length).1]
          ++ (lengthField payload.length).2 ++ payload ∧
    messageToFrame text payload
      = rfc6455Layout { fin := true, rsv1 := false, rsv2 := false, rsv3 := false,
                        opcode := if text then .text else .binary, mask := false,
                        length := payload.length, key := Key.zero, payload := payload } := by
  cases text <;>
    simp [messageToFrame, Frame.new, encodeFrame_eq_layout, rfc6455Layout, octet0, octet1, bit,
      opcodeCode]

/-- …and it decodes back, under any split, to that frame. -/
theorem to_frame_decodes (text : Bool) (payload : Bytes) (h64 : payload.length < 2 ^ 64)
    (s : List Bytes) (hne : NonEmptyReads s) (hs : s.flatten = messageToFrame text payload) :
    decodeFrame s = .ok (Frame.new (if text then .text else .binary) payload, []) := by
  have hwf : (Frame.new (if text then .text else .binary) payload).wf := ⟨rfl, h64⟩
  have h := decode_encode _ hwf s hne (by rw [hs]; cases text <;> rfl)
  simpa [Frame.normKey, Frame.new, Key.zero] using h

/-! ### Non-vacuity: the RFC's own examples (section 5.7) and the hypotheses are satisfiable -/

/-- "A single-frame unmasked text message": 0x81 0x05 0x48 0x65 0x6c 0x6c 0x6f (contains "Hello"). -/
example : messageToFrame true [0x48, 0x65, 0x6c, 0x6c, 0x6f]
    = [0x81, 0x05, 0x48, 0x65, 0x6c, 0x6c, 0x6f] := by decide

def helloMasked : Frame :=
  { fin := true, rsv1 := false, rsv2 := false, rsv3 := false, opcode := .text, mask := true,
    length := 5, key := ⟨0x37, 0xfa, 0x21, 0x3d⟩, payload := [0x48, 0x65, 0x6c, 0x6c, 0x6f] }

/-- "A single-frame masked text message": 0x81 0x85 0x37 0xfa 0x21 0x3d 0x7f 0x9f 0x4d 0x51 0x58. -/
example : rfc6455Layout helloMasked
    = [0x81, 0x85, 0x37, 0xfa, 0x21, 0x3d, 0x7f, 0x9f, 0x4d, 0x51, 0x58] := by decide
example : encodeFrame helloMasked
    = [0x81, 0x85, 0x37, 0xfa, 0x21, 0x3d, 0x7f, 0x9f, 0x4d, 0x51, 0x58] := by decide
example : helloMasked.wf := ⟨rfl, by decide⟩
example : NonEmptyReads [[0x81], [0x85, 0x37, 0xfa], [0x21, 0x3d, 0x7f, 0x9f, 0x4d, 0x51], [0x58]] := by
  intro c hc; simp at hc; rcases hc with rfl | rfl | rfl | rfl <;> simp
/-- the decoder on that split, by evaluation -/
example : decodeFrame [[0x81], [0x85, 0x37, 0xfa], [0x21, 0x3d, 0x7f, 0x9f, 0x4d, 0x51], [0x58]]
    = .ok (helloMasked, []) := by rfl
/-- a read that returns nothing in the middle of a frame is the end of the stream -/
example : decodeFrame [[0x81, 0x01], [], [0x41]] = .error .readError := by rfl
/-- a reserved opcode (0x3) -/
example : decodeFrame [[0x83, 0x00]] = .error .invalidOpcode := by rfl
example : reservedOpcode ((0x83 : UInt8) &&& 0xF).toNat = true := by decide
/-- length classes: 125 is the last 7-bit length, 126 the first 16-bit, 65536 the first 64-bit -/
example : lengthField 125 = (125, []) ∧ lengthField 126 = (126, [0x00, 0x7e]) ∧
    lengthField 65535 = (126, [0xff, 0xff]) ∧
    lengthField 65536 = (127, [0, 0, 0, 0, 0, 1, 0, 0]) := by decide

end Humphrey.WsFrame
