import HumphreyModel.Proofs.WsMsgOut
import HumphreyModel.Props.C10
import HumphreyModel.Props.C18Base64

/-!
# C11 — WebSocket endpoint: valid handshake, well-formed frames out, ping/close answered

Property theorems only. Model: `Model/WsMsg.lean` (`handshake`, `recvBlocking` = `WebsocketStream::recv`,
`recvNonblocking` = `recv_nonblocking`, `send`, `ping`, `dropStream` = `Drop`, over a scripted socket of
`data`/`notYet` events; the code after the two C11 repairs). Spec: `Spec/WsMsg.lean` (`messages`,
`replies`, `wire`) and `Spec/WsFrame.lean` (`rfc6455Layout`).

Vocabulary (`Proofs/WsMsgLoop.lean`, `Proofs/WsMsgRead.lean`):
* `ClientScript fs`: every frame has length field = payload length < 2^64; nothing else is assumed —
  any number of frames, any opcodes, FIN/RSV bits, masks, keys, payload sizes.
* `Arrives c fs tail`: the inbound script of `c` delivers the bytes `wire fs ++ tail` in ANY segmentation
  (every `read` returns at least one byte before the end) with ANY pauses (`notYet`), and `tail` is
  nothing or a frame cut short (abrupt disconnect). `Truncated tail` says it through the decoder: reading
  `tail` fails with `ReadError`; the empty tail and every proper prefix of a well-formed frame are such
  (`truncated_nil`, `truncated_prefix`).
* `serve c`: `while let Ok(m) = stream.recv() {…}` and then the stream is dropped; `session ops c`: any
  sequence of `recv`/`recv_nonblocking`/`send`/`ping` calls and then the drop.
Writes never fail in the model (no `WriteError`); SHA-1 is a parameter.
-/
namespace Humphrey.WsMsg
open Humphrey.WsFrame Humphrey.WsFrame.Spec Humphrey.WsMsg.Spec

/-! ## Handshake -/

/-- The handshake response as a value: status 101, the three headers, empty body. -/
theorem handshake_accept_response (sha1 : Bytes → Bytes) (req : Http.Request) (key : Bytes)
    (h : req.headers.get hSecKey = some key) :
    handshake sha1 req = some (Http.serializeResponse ⟨http11, 101,
      [⟨Http.hUpgrade, websocketValue⟩, ⟨Http.hConnection, upgradeValue⟩,
       ⟨hSecAccept, Base64.Spec.encode (sha1 (key ++ guid))⟩], []⟩) := by
  simp only [handshake, h, handshakeResponse, acceptValue, Base64.encode_eq_rfc4648]

/-- **Handshake.** With a `Sec-WebSocket-Key` header (any spelling of the name, first one wins, any value
including the empty one) the response is 101 with `Upgrade: websocket`, `Connection: Upgrade` and
`Sec-WebSocket-Accept` = the RFC 4648 Base64 encoding (`Spec/Base64.lean`, through C18's
`encode_eq_rfc4648`) of `sha1 (key ++ "258EAFA5-E914-47DA-95CA-C5AB0DC85B11")`, and no body — exactly
these bytes (status line and header spelling come from the tables generated from the running code). -/
theorem handshake_accept (sha1 : Bytes → Bytes) (req : Http.Request) (key : Bytes)
    (h : req.headers.get hSecKey = some key) :
    handshake sha1 req = some
      ([72, 84, 84, 80, 47, 49, 46, 49, 32, 49, 48, 49, 32, 83, 119, 105, 116, 99, 104, 105, 110, 103,
        32, 80, 114, 111, 116, 111, 99, 111, 108, 115, 13, 10,
        67, 111, 110, 110, 101, 99, 116, 105, 111, 110, 58, 32, 85, 112, 103, 114, 97, 100, 101, 13, 10,
        85, 112, 103, 114, 97, 100, 101, 58, 32, 119, 101, 98, 115, 111, 99, 107, 101, 116, 13, 10,
        115, 101, 99, 45, 119, 101, 98, 115, 111, 99, 107, 101, 116, 45, 97, 99, 99, 101, 112, 116,
        58, 32] ++ Base64.Spec.encode (sha1 (key ++ guid)) ++ [13, 10, 13, 10]) := by
  rw [handshake_accept_response sha1 req key h]
  generalize Base64.Spec.encode (sha1 (key ++ guid)) = v
  -- the status line and the header names come from the generated tables; the three headers are sorted
  have e1 : Http.statusCodeOut 101 = 101 := by decide
  have e2 : Http.reasonPhrase 101 = [83, 119, 105, 116, 99, 104, 105, 110, 103, 32, 80, 114, 111,
      116, 111, 99, 111, 108, 115] := by decide
  have e3 : Http.Headers.sorted [⟨Http.hUpgrade, websocketValue⟩, ⟨Http.hConnection, upgradeValue⟩,
        ⟨hSecAccept, v⟩]
      = [⟨Http.hConnection, upgradeValue⟩, ⟨Http.hUpgrade, websocketValue⟩, ⟨hSecAccept, v⟩] := by
    have l1 : Http.hConnection.lt Http.hUpgrade = true := by decide
    have l2 : hSecAccept.lt Http.hConnection = false := by decide
    have l3 : hSecAccept.lt Http.hUpgrade = false := by decide
    simp [Http.Headers.sorted, Http.insertSorted, l1, l2, l3]
  have d1 : Http.hConnection.display = [67, 111, 110, 110, 101, 99, 116, 105, 111, 110] := by decide
  have d2 : Http.hUpgrade.display = [85, 112, 103, 114, 97, 100, 101] := by decide
  have d3 : hSecAccept.display = hSecAccept.lower := by decide
  have n1 : Bytes.natToBytes 101 = [49, 48, 49] := by decide
  simp only [Http.serializeResponse, e1, e2, e3, n1, List.flatMap_cons, List.flatMap_nil, d1, d2, d3]
  simp only [http11, Bytes.SP, Bytes.crlf, hSecAccept, upgradeValue, websocketValue, List.isEmpty_nil,
    if_true, List.append_assoc, List.cons_append, List.nil_append, List.append_nil]

/-- **No key, no upgrade**: nothing is written and the handler is not called. -/
theorem no_key_no_upgrade (sha1 : Bytes → Bytes) (req : Http.Request)
    (h : req.headers.get hSecKey = none) : handshake sha1 req = none := by
  simp [handshake, h]

/-- …and conversely an upgrade happens only with a key. -/
theorem upgrade_iff_key (sha1 : Bytes → Bytes) (req : Http.Request) :
    (handshake sha1 req).isSome = (req.headers.get hSecKey).isSome := by
  unfold handshake; cases req.headers.get hSecKey <;> rfl

/-- The GUID has the RFC's 36 characters ("258EAFA5-E914-47DA-95CA-C5AB0DC85B11"; the correspondence
run compares whole responses with the real code's). -/
example : guid.length = 36 ∧ guid.take 9 = [50, 53, 56, 69, 65, 70, 65, 53, 45] := by decide
/-- non-vacuity: a request with ("Sec-WebSocket-KEY: A") and one without the header -/
example : (⟨.get, [], [], [], [⟨Http.HName.ofName [83, 101, 99, 45, 87, 101, 98, 83, 111, 99, 107,
    101, 116, 45, 75, 69, 89], [65]⟩], none, ⟨[], [], 0⟩⟩ : Http.Request).headers.get hSecKey
    = some [65] := by decide
example : handshake (fun _ => []) ⟨.get, [], [], [], [], none, ⟨[], [], 0⟩⟩ = none := by decide

/-! ## Everything written is frames -/

/-- **Outbound is frames.** Whatever arrives on the socket (any bytes, also garbage; any segmentation;
any pauses) and whatever the handler does (any sequence of `recv`, `recv_nonblocking`, `send`, `ping`,
then the drop): what is written after the handshake is the log before plus the RFC 6455 layouts of
frames with FIN set, RSV clear, MASK clear and length field = payload length (`reply o p`), one
`write_all` per frame. -/
theorem outbound_is_frames (ops : List Op) (c : Conn) :
    ∃ fs : List Frame, (∀ f ∈ fs, ∃ o p, f = reply o p) ∧
      (session ops c).outbound = c.outbound ++ fs.map rfc6455Layout :=
  (foldl_apply_writes ops c).trans (dropStream_writes _)

/-- The same about the byte stream the client sees: it is the concatenated layout of unmasked frames. -/
theorem outbound_bytes_are_frames (ops : List Op) (inbound : List Ev) :
    ∃ fs : List Frame, (∀ f ∈ fs, f.mask = false ∧ f.length = f.payload.length) ∧
      (session ops { inbound := inbound }).outbound.flatten = wire fs := by
  obtain ⟨fs, hfs, e⟩ := outbound_is_frames ops { inbound := inbound }
  refine ⟨fs, ?_, by rw [e]; simp [wire]⟩
  intro f hf
  obtain ⟨o, p, rfl⟩ := hfs f hf
  exact ⟨rfl, rfl⟩

/-- …and each of them decodes back (C10 `decode_encode`) — stated for one reply frame. -/
theorem reply_decodes (o : Opcode) (p : Bytes) (h64 : p.length < 2 ^ 64) (s : List Bytes)
    (hne : NonEmptyReads s) (hs : s.flatten = rfc6455Layout (reply o p)) :
    decodeFrame s = .ok (reply o p, []) := by
  have hwf : (reply o p).wf := ⟨rfl, h64⟩
  have := decode_encode (reply o p) hwf s hne (by rw [hs, encodeFrame_eq_layout])
  simpa [Frame.normKey, reply] using this

/-! ## Receiving a client script -/

/-- **Messages delivered = messages sent.** For every client script, every delivery of its bytes and
every abrupt ending: repeated `recv` returns exactly the messages the script denotes (`Spec.messages`:
fragments concatenated in order, text/binary from the first fragment, control frames in between
skipped, nothing after a Close, an unfinished last message is not delivered), then `ConnectionClosed`
if the script has a Close and `ReadError` otherwise. -/
theorem recv_delivers_messages (fs : List Frame) (hfs : ClientScript fs) (tail : Bytes) (c : Conn)
    (hc : c.closed = false) (h : Arrives c fs tail) :
    (serve c).1 = (messages fs).map (fun m => (m.text, m.payload)) ∧
    (serve c).2.1 = .err (if hasClose fs then .connectionClosed else .readError) := by
  obtain ⟨c', e, _⟩ := serve_wire hfs hc h
  rw [e]; exact ⟨rfl, rfl⟩

/-- What the server writes during the conversation: the replies the specification asks for (a Pong
per Ping, a Close for the Close), each as one frame, then the drop-time Close unless the client closed. -/
theorem serve_writes_replies (fs : List Frame) (hfs : ClientScript fs) (tail : Bytes) (c : Conn)
    (hc : c.closed = false) (h : Arrives c fs tail) :
    (serve c).2.2.outbound = c.outbound ++ (replies fs).map rfc6455Layout ++
      (if hasClose fs then [] else [rfc6455Layout (reply .close [])]) := by
  obtain ⟨c', e, ho⟩ := serve_wire hfs hc h
  rw [e]; exact ho

/-- **Ping → Pong.** A Ping anywhere in the script before a Close (`pre` has none) — also between the
fragments of a message — is answered by a Pong frame with the same payload, written right after the
replies to what came before it. -/
theorem ping_answered_by_pong_same_payload (pre post : List Frame) (p : Frame)
    (hp : p.opcode = .ping) (hpre : hasClose pre = false) (hfs : ClientScript (pre ++ p :: post))
    (tail : Bytes) (c : Conn) (hc : c.closed = false) (h : Arrives c (pre ++ p :: post) tail) :
    ∃ after, (serve c).2.2.outbound = c.outbound ++ (replies pre).map rfc6455Layout ++
      [rfc6455Layout (reply .pong p.payload)] ++ after := by
  rw [serve_writes_replies _ hfs tail c hc h, replies_append pre hpre]
  refine ⟨(replies post).map rfc6455Layout ++
    (if hasClose (pre ++ p :: post) then [] else [rfc6455Layout (reply .close [])]), ?_⟩
  simp [replies, hp]

/-- **Close → Close, reported.** At the first Close of the script: the messages completed before it
have been delivered, `recv` reports `ConnectionClosed`, and a Close frame (echoing the payload) is the last
thing written, the drop included: `serve` ends with `dropStream`, which writes nothing more because the
stream was marked closed. -/
theorem close_answered_and_reported (pre post : List Frame) (cl : Frame) (hcl : cl.opcode = .close)
    (hpre : hasClose pre = false) (hfs : ClientScript (pre ++ cl :: post)) (tail : Bytes) (c : Conn)
    (hc : c.closed = false) (h : Arrives c (pre ++ cl :: post) tail) :
    (serve c).1 = (messages pre).map (fun m => (m.text, m.payload)) ∧
    (serve c).2.1 = .err .connectionClosed ∧
    (serve c).2.2.outbound = c.outbound ++ (replies pre).map rfc6455Layout ++
      [rfc6455Layout (reply .close cl.payload)] := by
  have hclose : hasClose (pre ++ cl :: post) = true := by
    rw [hasClose_append]; simp [hasClose, hcl]
  obtain ⟨hm, he⟩ := recv_delivers_messages _ hfs tail c hc h
  refine ⟨?_, by rw [he, hclose]; rfl, ?_⟩
  · rw [hm]; unfold messages; rw [messagesFrom_append_close pre hpre cl hcl]
  · rw [serve_writes_replies _ hfs tail c hc h, hclose, replies_append pre hpre]
    simp [replies, hcl]

/-- After `recv`, `closed` is set iff the receive loop left it set (the loop never writes the flag) or the
call reports `ConnectionClosed`. -/
theorem closed_iff_reported (c : Conn) :
    (recvBlocking c).2.closed = true ↔
      ((recvLoop (fuelFor c) c []).2.closed = true ∨ (recvBlocking c).1 = .err .connectionClosed) := by
  unfold recvBlocking noteClosed
  by_cases h : (recvLoop (fuelFor c) c []).1 = .err .connectionClosed <;> simp [h]

/-- **Drop sends Close.** Dropping a stream that has not seen the client's Close writes exactly one
frame, an empty unmasked Close (`88 00`); a stream that has, writes nothing more. -/
theorem drop_sends_close (c : Conn) :
    (c.closed = false → (dropStream c).outbound = c.outbound ++ [rfc6455Layout (reply .close [])] ∧
      rfc6455Layout (reply .close []) = [0x88, 0x00]) ∧
    (c.closed = true → dropStream c = c) := by
  refine ⟨fun h => ⟨?_, by decide⟩, fun h => by simp [dropStream, h]⟩
  simp [dropStream, h, Conn.write, encodeFrame_fun, reply_eq_new]

/-- …in a conversation: when the script has no Close (server drop, or the client vanished), the last
thing written is that Close frame. -/
theorem drop_sends_close_in_session (fs : List Frame) (hfs : ClientScript fs)
    (hno : hasClose fs = false) (tail : Bytes) (c : Conn) (hc : c.closed = false)
    (h : Arrives c fs tail) :
    (serve c).2.2.outbound = c.outbound ++ (replies fs).map rfc6455Layout ++ [[0x88, 0x00]] := by
  rw [serve_writes_replies fs hfs tail c hc h, hno, ((drop_sends_close c).1 hc).2]
  rfl

/-- The result of `recv` on a client script does not depend on how the bytes are delivered. -/
theorem recv_delivery_independent (fs : List Frame) (hfs : ClientScript fs) (tail : Bytes)
    (c₁ c₂ : Conn) (h₁ : Arrives c₁ fs tail) (h₂ : Arrives c₂ fs tail) :
    (recvBlocking c₁).1 = (recvBlocking c₂).1 := by
  rw [recvBlocking_wire hfs h₁, recvBlocking_wire hfs h₂]

/-- **Built on C10.** On a socket script without pauses a frame is read exactly as C10's `decodeFrame`
reads it from the chunk script (same frame or error, same chunks left over); with pauses the blocking
reads just sit them out (`readFrame_delivery_independent`). -/
theorem frame_read_is_c10_decoder (cs : List Bytes) :
    match decodeFrame cs with
    | .error e => readFrame (cs.map Ev.data) = .error e
    | .ok (f, r) => readFrame (cs.map Ev.data) = .ok (f, r.map Ev.data) := by
  obtain ⟨_, ⟨e, h1, h2⟩ | ⟨f, a, b, h1, h2, hab⟩⟩ :=
    decodeWith_sim readExactEv_readExact_sim (a := cs.map Ev.data) (b := cs) rfl
  · unfold decodeFrame decodeFrameFull; rw [h2]; exact h1
  · unfold decodeFrame decodeFrameFull; rw [h2]; subst hab; exact h1

/-! ## Blocking and non-blocking receive -/

/-- **Agreement.** For ANY inbound script: (1) whenever `recv_nonblocking` returns something other
than "nothing yet", `recv` on the same connection returns the same result and leaves the same
connection (same bytes consumed, same replies written, same flags); (2) when it returns "nothing
yet" (reads never returning 0 bytes before the end), nothing is lost or reordered: `recv` afterwards
gives what `recv` would have given before. -/
theorem blocking_nonblocking_agree (c : Conn) :
    (∀ r c', recvNonblocking c = (r, c') → r ≠ .none → recvBlocking c = (r, c')) ∧
    (∀ c', recvNonblocking c = (.none, c') → NonEmptyData c.inbound →
      recvBlocking c = recvBlocking c') := by
  constructor
  · intro r c' h hr
    have hr' : (recvLoopNb (fuelFor c) c [] true).1 ≠ .none :=
      fun h0 => hr ((congrArg Prod.fst h).symm.trans h0)
    unfold recvBlocking
    rw [recvLoop_eq_of_nb_ne_none _ _ _ _ hr']
    exact h
  · intro c' h hne
    unfold recvBlocking
    rw [recvLoop_eq_after_nb_none _ _ _ _ (recvNonblocking_none h) hne (by unfold fuelFor; omega)]

/-- On a client script, in particular: a non-blocking receive that returns a message returns the one
`Spec.messages` lists first. -/
theorem nonblocking_message_is_the_next (fs : List Frame) (hfs : ClientScript fs) (tail : Bytes)
    (c c' : Conn) (h : Arrives c fs tail) (t : Bool) (p : Bytes)
    (hr : recvNonblocking c = (.message t p, c')) :
    (messages fs).head? = some ⟨t, p⟩ := by
  have hb := (blocking_nonblocking_agree c).1 _ _ hr (by simp)
  have e := recvBlocking_wire hfs h
  rw [hb] at e
  cases hm : messages fs with
  | nil => rw [hm] at e; cases e
  | cons m ms => rw [hm] at e; cases e; rfl

/-- **"Nothing yet" only if nothing has started.** When `recv_nonblocking` answers "nothing yet", then
(`NothingStarted`) everything consumed by the call was a run of COMPLETE Ping/Pong frames (each read
to its end and answered), and at the point reached after them no byte was available: the script was
at its end or at a `notYet` moment. In particular a frame of which at least one byte has arrived is
never answered by "nothing yet". -/
theorem none_only_if_nothing_started (c c' : Conn) (h : recvNonblocking c = (.none, c')) :
    NothingStarted c.inbound c'.inbound := by
  exact recvLoopNb_nothingStarted _ _ _ _ (recvNonblocking_none h)

/-- Contrapositive, first step: if a byte of a frame is there (the script starts with a non-empty
segment) and the frame it begins is not a Ping or Pong, the answer is not "nothing yet". -/
theorem started_frame_is_received (c : Conn) (b : UInt8) (bs : Bytes) (s : List Ev)
    (hin : c.inbound = .data (b :: bs) :: s)
    (hdata : ∀ f s1, readFrame c.inbound = .ok (f, s1) → f.opcode ≠ .ping ∧ f.opcode ≠ .pong) :
    (recvNonblocking c).1 ≠ .none := by
  intro hnone
  have h : recvNonblocking c = (.none, (recvNonblocking c).2) := by rw [← hnone]
  have hs := none_only_if_nothing_started c _ h
  cases hs with
  | here ha _ =>
    rcases ha with h0 | ⟨t, h0⟩ | ⟨t, h0⟩ <;> rw [hin] at h0 <;> simp at h0
  | control hrf hctl _ =>
    obtain ⟨h1, h2⟩ := hdata _ _ hrf
    rcases hctl with hh | hh
    · exact h1 hh
    · exact h2 hh

/-- The receive loops are given enough fuel (`outOfFuel` is never a result). -/
theorem recv_fuel_suffices (c : Conn) :
    (recvBlocking c).1 ≠ .outOfFuel ∧ (recvNonblocking c).1 ≠ .outOfFuel := by
  have hb : (recvLoop (fuelFor c) c []).1 ≠ .outOfFuel :=
    (recvLoop_ne_none_ne_outOfFuel _ _ _).2 (by unfold fuelFor; omega)
  constructor
  · unfold recvBlocking noteClosed; exact hb
  · intro h
    have hl : (recvLoopNb (fuelFor c) c [] true).1 = .outOfFuel := h
    rw [recvLoop_eq_of_nb_ne_none _ _ _ _ (by rw [hl]; simp)] at hb
    exact hb hl

/-! ## Non-vacuity: concrete conversations, by evaluation -/

/-- a masked Ping "abc", then the text message "Hi" in two fragments with a Pong in between -/
def demoScript : List Frame :=
  [ { fin := true, rsv1 := false, rsv2 := false, rsv3 := false, opcode := .ping, mask := true,
      length := 3, key := ⟨1, 2, 3, 4⟩, payload := [97, 98, 99] },
    { fin := false, rsv1 := false, rsv2 := false, rsv3 := false, opcode := .text, mask := true,
      length := 1, key := ⟨0x37, 0xfa, 0x21, 0x3d⟩, payload := [72] },
    { fin := true, rsv1 := false, rsv2 := false, rsv3 := false, opcode := .pong, mask := false,
      length := 0, key := Key.zero, payload := [] },
    { fin := true, rsv1 := false, rsv2 := false, rsv3 := false, opcode := .continuation, mask := true,
      length := 1, key := ⟨9, 9, 9, 9⟩, payload := [105] } ]

example : ClientScript demoScript := by
  intro f hf
  simp only [demoScript, List.mem_cons, List.not_mem_nil, or_false] at hf
  rcases hf with rfl | rfl | rfl | rfl <;> exact ⟨rfl, by decide⟩
example : messages demoScript = [⟨true, [72, 105]⟩] := by decide
example : replies demoScript = [reply .pong [97, 98, 99]] := by decide
example : hasClose demoScript = false := by decide
example : Truncated [] := truncated_nil
/-- the first header byte alone, a pause, the rest; then the end of the stream -/
example : (serve { inbound := [.data [0x89], .notYet, .data ((wire demoScript).drop 1)] }).1
    = [(true, [72, 105])] := by decide
example : (serve { inbound := [.data [0x89], .notYet, .data ((wire demoScript).drop 1)] }).2.2.outbound
    = [[0x8a, 0x03, 97, 98, 99], [0x88, 0x00]] := by decide
/-- the same delivery through `recv_nonblocking`: the lone header byte is waited for (D7) -/
example : (recvNonblocking { inbound := [.data [0x89], .notYet, .data ((wire demoScript).drop 1)] }).1
    = .message true [72, 105] := by decide
/-- nothing has started: "nothing yet", the pause is over afterwards -/
example : recvNonblocking { inbound := [.notYet, .data [0x81, 0x00]] }
    = (.none, { inbound := [.data [0x81, 0x00]] }) := by decide
example : NothingStarted [.notYet, .data [0x81, 0x00]] [.data [0x81, 0x00]] :=
  .here (.inr (.inl ⟨_, rfl⟩)) (by decide)
/-- an empty Ping is answered by an empty Pong frame (D6: a bare payload would be no bytes at all) -/
example : (recvNonblocking { inbound := [.data [0x89, 0x00]] }).2.outbound = [[0x8a, 0x00]] := by
  decide
/-- a client Close with status 1000 is echoed, reported, and the drop then writes nothing -/
example : serve { inbound := [.data [0x88, 0x02, 0x03, 0xe8]] }
    = ([], .err .connectionClosed,
       { inbound := [], outbound := [[0x88, 0x02, 0x03, 0xe8]], closed := true }) := by decide

end Humphrey.WsMsg
