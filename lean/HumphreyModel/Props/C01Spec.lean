import HumphreyModel.Proofs.ConnStream

/-!
# C01 — the connection loop meets its executable specification on ALL inputs

Model: `Model/Conn.lean` (`serve`, the loop of `client_handler`). Spec: `Spec/Conn.lean`
(`checkConn`, the clauses of the property evaluated on what was written). Helper lemmas:
`Proofs/HttpMsgConn.lean` (what `respond` writes), `Proofs/HttpMsgConnSpec.lean`
(`checkResponse` accepts it), `Proofs/HttpMsgLoop.lean` (lockstep induction; the theorem with `hcr`
asked only where the loop can start parsing, of which `serve_meets_spec` is the weakening to all
suffixes).

Hypotheses (all are the property's own restriction on its targets, see `CfgOk`, `HandlerOk`,
`ReqOk` in `Proofs/ConnHyps.lean`):

* `CfgOk cfg` — every response a handler returns has a status the code knows, well-formed headers
  (token names, values without CR/LF or leading SP/TAB), a body whose length is a `usize`, and sets
  none of Content-Length / Access-Control-Allow-{Origin,Methods,Headers} itself (Connection, Date
  and Server MAY be set by the handler: the spec only asks that Date and Server be present); the
  CORS values of the routes and the clock text `cfg.now` are well-formed header values.
* `hcr` — no request that parses from a suffix of the client byte stream has a bare CR (a CR not
  followed by LF) inside its version or inside its `Connection` value (`NoBareCR`,
  `Proofs/ConnHyps.lean`). Everything else the response echoes is guaranteed by parsing and
  PROVED (`parseRequest_reqOk`): version non-empty without SP and LF, `Connection` value without LF
  and without leading SP/TAB. The bare CR is real: `GET / A\rB\r\n` is accepted with version
  `A\rB` and `Connection: x\ry` with value `x\ry`; both are echoed into the response, which the
  strict recogniser then rejects. So without `hcr` the statement is FALSE.

The unrestricted statement (false: `bare_cr_stream_violates_spec` in `Props/C01Stream.lean` refutes it
on `sampleCfg`):

    theorem serve_meets_spec_all (cfg) (s) (hcfg : CfgOk cfg) :
      Spec.checkConn cfg readerIdle s (serve readerSource readerIdle cfg s).written
        (decide ((serve readerSource readerIdle cfg s).disposition = .handlerPanicked))
        ∈ [none, some "crlf-after-body"]
-/
namespace Humphrey.Http
open Humphrey Humphrey.Bytes Humphrey.IO

/-- **The loop meets its executable specification** for every client stream, every segmentation
into reads and every placement of pauses, under the one hypothesis parsing cannot discharge: no
bare CR in an echoed version / `Connection` value. -/
theorem serve_meets_spec {κ ω : Type} (cfg : ConnCfg κ ω) (s : Reader) (hcfg : CfgOk cfg)
    (hcr : ∀ (b : Bytes) (req : Request) (b' : Bytes), b <:+ s.rest →
      parseRequest flatSource cfg.env b = .ok (req, b') → NoBareCR req) :
    Spec.checkConn cfg readerIdle s (serve readerSource readerIdle cfg s).written
      (decide ((serve readerSource readerIdle cfg s).disposition = .handlerPanicked))
      ∈ [none, some "crlf-after-body"] :=
  serve_meets_spec_at_boundaries cfg s hcfg (fun b req b' hb hp => hcr b req b' hb.suffix hp)

/-- Corollary for a stream without pauses, cut into reads in any way. -/
theorem serve_meets_spec_any_segmentation {κ ω : Type} (cfg : ConnCfg κ ω) (reads : List Bytes)
    (hcfg : CfgOk cfg)
    (hcr : ∀ (b : Bytes) (req : Request) (b' : Bytes), b <:+ reads.flatten →
      parseRequest flatSource cfg.env b = .ok (req, b') → NoBareCR req) :
    Spec.checkConn cfg readerIdle ⟨[], reads⟩ (serve readerSource readerIdle cfg ⟨[], reads⟩).written
      (decide ((serve readerSource readerIdle cfg ⟨[], reads⟩).disposition = .handlerPanicked))
      ∈ [none, some "crlf-after-body"] :=
  serve_meets_spec cfg ⟨[], reads⟩ hcfg (by simpa [Reader.rest] using hcr)

/-! ## Non-vacuity: a configuration that satisfies `CfgOk` -/

/-- One route `*` with wildcard CORS whose handler answers `200 OK`, body `x`, one custom header. -/
def sampleCfg : ConnCfg Unit Unit where
  app := ⟨[], ⟨[], [⟨['*'], (), { origins := none, methods := some [.get], headers := some [] }⟩], []⟩⟩
  run := fun _ _ => .response ⟨http11, 200, [⟨⟨[120, 45, 97]⟩, [118]⟩], [120]⟩
  decode := fun b => b.map (fun c => Char.ofNat c.toNat)
  env := ⟨[49], 80, fun _ => none⟩
  now := [110, 111, 119]
  timeout := true

theorem sampleCfg_ok : CfgOk sampleCfg := by
  refine ⟨?_, ?_, ⟨HName.wf_known hDate (by decide), by decide, by intro b t e; cases e; decide⟩⟩
  · intro k req r hr
    simp only [sampleCfg, HandlerResult.response.injEq] at hr
    subst hr
    refine ⟨by decide, ?_, by decide, by decide, by decide, by decide, by decide⟩
    intro h hh
    simp only [List.mem_cons, List.not_mem_nil, or_false] at hh
    subst hh
    exact ⟨HName.wf_of_lower _ (by decide) (by decide) (by decide), by decide,
      by intro b t e; cases e; decide⟩
  · intro host path e he h hh
    have hmem : e = ⟨['*'], (), { origins := none, methods := some [.get], headers := some [] }⟩ := by
      simp only [getHandler, sampleCfg, List.find?_nil] at he
      cases host with
      | none =>
        simp only [List.find?_cons] at he
        split at he
        · simp at he; exact he.symm
        · simp at he
      | some hst =>
        simp only [List.find?_cons] at he
        split at he
        · simp at he; exact he.symm
        · simp at he
    subst hmem
    simp only [setHeaders_nil, corsOrigins, corsMethods, corsHeaders, List.isEmpty_cons, List.isEmpty_nil,
      Bool.false_eq_true, if_false, if_true, List.append_nil, List.mem_append, List.mem_cons,
      List.not_mem_nil, or_false] at hh
    rcases hh with rfl | rfl
    · exact ⟨HName.wf_known hAcao (by decide), by decide, by intro b t e; cases e; decide⟩
    · exact ⟨HName.wf_known hAcam (by decide), by decide, by intro b t e; cases e; decide⟩

/-- Bool form of `NoBareCR` on a parse outcome (`true` when nothing parsed). -/
def cleanOutcome (o : Outcome ReqErr (Request × Bytes)) : Bool :=
  match o with
  | .ok (req, _) =>
    req.version.all (· != 13) &&
      (match req.headers.get hConnection with
       | some c => c.all (· != 13)
       | none => true)
  | _ => true

theorem cleanOutcome_noBareCR {req : Request} {b' : Bytes}
    (h : cleanOutcome (.ok (req, b')) = true) : NoBareCR req := by
  simp only [cleanOutcome, Bool.and_eq_true, List.all_eq_true, bne_iff_ne, ne_eq] at h
  refine ⟨h.1, ?_⟩
  intro c hc
  have h2 := h.2
  rw [hc] at h2
  simpa [List.all_eq_true] using h2

/-- `GET / HTTP/1.1\r\nConnection: keep-alive\r\n\r\n` -/
def sampleStream : Bytes :=
  [71, 69, 84, 32, 47, 32, 72, 84, 84, 80, 47, 49, 46, 49, 13, 10,
   67, 111, 110, 110, 101, 99, 116, 105, 111, 110, 58, 32, 107, 101, 101, 112, 45, 97, 108, 105, 118, 101, 13, 10,
   13, 10]

/-- No suffix of the sample stream parses to a request with a bare CR: the stream has no CR that is
not followed by LF. -/
theorem sampleStream_clean :
    ∀ k, k < 43 → cleanOutcome (parseRequest flatSource sampleCfg.env (sampleStream.drop k)) = true := by
  intro k _
  cases hp : parseRequest flatSource sampleCfg.env (sampleStream.drop k) with
  | ok p =>
    have hc := noBareCR_of_clean_bytes sampleCfg.env _ p.1 p.2
      (CRonlyBeforeLF.to_suffix ((cleanStream_decidable sampleStream).mp (by decide)) (List.drop_suffix k _)) hp
    simp only [cleanOutcome, Bool.and_eq_true, List.all_eq_true, bne_iff_ne]
    refine ⟨hc.version, ?_⟩
    cases hg : p.1.headers.get hConnection with
    | none => rfl
    | some c => exact List.all_eq_true.mpr fun b hb => bne_iff_ne.mpr (hc.connection c hg b hb)
  | err e => rfl
  | panic => rfl

/-- The sample stream does parse to a request (so the hypothesis `hcr` below is exercised, not
vacuous): version `HTTP/1.1`. -/
example : ∃ req b', parseRequest flatSource sampleCfg.env sampleStream = .ok (req, b') ∧
    req.version = [72, 84, 84, 80, 47, 49, 46, 49] ∧ b' = [] :=
  ⟨_, _, rfl, rfl, rfl⟩

/-- Non-vacuity on a non-empty stream: one keep-alive GET request, routed to the handler of
`sampleCfg`, delivered in two reads with a pause past the timeout afterwards. -/
example : Spec.checkConn sampleCfg readerIdle ⟨[], [sampleStream.take 5, sampleStream.drop 5, []]⟩
    (serve readerSource readerIdle sampleCfg ⟨[], [sampleStream.take 5, sampleStream.drop 5, []]⟩).written
    (decide ((serve readerSource readerIdle sampleCfg
      ⟨[], [sampleStream.take 5, sampleStream.drop 5, []]⟩).disposition = .handlerPanicked))
    ∈ [none, some "crlf-after-body"] := by
  apply serve_meets_spec sampleCfg _ sampleCfg_ok
  intro b req b' hb hp
  exact noBareCR_of_clean_bytes sampleCfg.env b req b'
    (CRonlyBeforeLF.to_suffix ((cleanStream_decidable _).mp (by decide)) hb) hp

/-- The hypothesis on requests holds for the empty stream (nothing parses from it). -/
example : Spec.checkConn sampleCfg readerIdle ⟨[], []⟩
    (serve readerSource readerIdle sampleCfg ⟨[], []⟩).written
    (decide ((serve readerSource readerIdle sampleCfg ⟨[], []⟩).disposition = .handlerPanicked))
    ∈ [none, some "crlf-after-body"] := by
  apply serve_meets_spec sampleCfg ⟨[], []⟩ sampleCfg_ok
  intro b req b' hb hp
  have : b = [] := by simpa [Reader.rest] using hb
  subst this
  simp [parseRequest, flatSource, flatReadExact] at hp

end Humphrey.Http
