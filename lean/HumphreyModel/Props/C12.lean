import HumphreyModel.Proofs.WsAppTrace

/-!
# C12 — the asynchronous WebSocket app delivers connect / message / disconnect exactly once, in order

`Model/WsApp.lean` is one iteration of `AsyncWebsocketApp::run` (`stepLoop`) and the loop over any list of
iteration inputs (`runLoop`); `Spec/WsApp.lean` states the property as predicates over the effect trace.
A "dispatch" is the submission of a handler call to the handler pool, which dequeues in FIFO order (C08,
`fifo_dequeue`); with one handler thread dispatch order is execution order.

The three handlers are optional (`Handlers`: which of `on_connect` / `on_message` / `on_disconnect` are
registered). EVERY theorem below is stated and proved for an arbitrary configuration `h : Handlers`:
* the statements about dispatches speak of the registered handlers (`connect_once_before_messages`,
  `message_once_in_order`, `disconnect_once_then_silence`: the full statement when the handler is registered, no
  dispatch of that kind at all when it is not);
* the statements about removal, silence after removal, polling, sends and pings make no assumption on `h`
  (`removed_once_then_silence`, `closed_client_not_polled_again`, `never_admitted_silent`,
  `unicast_only_addressee`, `broadcast_each_connected_once`, `shutdown_returns`, `no_panic`): a client that closes /
  breaks / times out leaves the table exactly once — effect `drop`, `self.streams.remove(&addr)` — and is never
  polled, dispatched for, written to or pinged again, whether or not anybody is told about it.

Hypotheses of the run theorems:
* `s.phase = .running` — the loop has not been left yet;
* `RunOk h s is` — every executed iteration's input is consistent with the table at that moment (`InputsOk`: the
  streams polled are exactly the keys of the table, each once, and every inner loop ends with its first
  `None`/`Err`); the code guarantees this by construction (`keys` is `self.streams.keys()`), and the driver
  checks it on every logged iteration;
* `DistinctPeers s is` — no peer address is used twice in the run.
Nothing else is assumed about the inputs: any number of iterations, any clients, any receive results, any
clock readings, any admissions, any outgoing messages in any order.

What the model cannot exhibit (and the theorems therefore do not cover): a blocking read inside an unfinished
fragmented message stalls the iteration (C11: `recv_nonblocking` blocks after the first frame), socket
timing, and the execution order of queued handler calls with more than one handler thread.
-/
namespace Humphrey.Props.C12
open Humphrey.WsApp Humphrey.WsAppSpec

/-- `get_mut(&addr).unwrap()` never panics on consistent inputs. -/
theorem no_panic (h : Handlers) (s : AppState) (is : List IterInput) (hp : s.phase = .running)
    (hok : RunOk h s is = true) :
    Effect.panic ∉ (runLoop h s is).2 := by
  intro hm
  rcases addr_trace hp hok hm with he | ⟨b, hb, _⟩
  · cases he
  · cases hb

/-- **Connect exactly once, before any of the client's messages** (app with a connect handler). For every
client admitted in the run the connect handler is dispatched exactly once, and no message of that client is
dispatched before it. A client that is never admitted gets no connect dispatch; an app without a connect handler
dispatches none at all. -/
theorem connect_once_before_messages (h : Handlers) (s : AppState) (is : List IterInput)
    (hp : s.phase = .running) (hok : RunOk h s is = true) (hd : DistinctPeers s is) (a : Addr) :
    (h.connect = true → a ∈ admitted is → ConnectOnceBeforeMessages a (runLoop h s is).2) ∧
    ((h.connect = false ∨ a ∉ admitted is) → (runLoop h s is).2.count (.dispatchConnect a) = 0) := by
  obtain ⟨X, hX, hT, hB⟩ := run_trace hp hok
  have hcount : (runLoop h s is).2.count (.dispatchConnect a) = if h.connect then (admitted is).count a else 0 := by
    rw [hT, List.count_append, count_connect_body, List.count_eq_zero_of_not_mem (l := X) (fun hm => by cases hX _ hm)]
    rfl
  obtain ⟨_, hnd, hdisj⟩ := List.nodup_append.1 (nodup_admitted hd)
  constructor
  · intro hc ha
    refine ⟨by rw [hcount, if_pos hc, hnd.count, if_pos ha], ?_⟩
    rw [hT]
    exact before_connect hc a (fun e he => by rw [hX e he]; rfl) _ _ (fun hin => hdisj a hin a ha rfl) hB
  · intro ha
    rw [hcount]
    rcases ha with hc | ha
    · simp [hc]
    · split
      · exact List.count_eq_zero_of_not_mem ha
      · rfl

/-- **Each message exactly once, in per-client order** (app with a message handler). The messages dispatched for
client `a` are the messages received from `a`, in the order received (no address hypothesis is needed for this
one). An app without a message handler dispatches none (it still receives them: see `removed_once_then_silence`
and the model, where the receive results drive the same state changes). -/
theorem message_once_in_order (h : Handlers) (s : AppState) (is : List IterInput) (hp : s.phase = .running)
    (hok : RunOk h s is = true) (a : Addr) :
    (h.message = true → MessagesOnceInOrder a is (runLoop h s is).2) ∧
    (h.message = false → (runLoop h s is).2.filterMap (msgOf a) = []) := by
  obtain ⟨X, hX, hT, _⟩ := run_trace hp hok
  unfold MessagesOnceInOrder
  rw [hT, List.filterMap_append, msgOf_body, List.filterMap_eq_nil_iff.2 (fun e he => by rw [hX e he]; rfl),
    List.append_nil]
  exact ⟨fun hm => by rw [if_pos hm]; rfl, fun hm => by rw [hm]; rfl⟩

/-- **Removed exactly once, then silence — for EVERY configuration of handlers.** A client is found closed,
broken or timed out at most once; if it is, its stream is removed from the table (and dropped) exactly once and
afterwards nothing is dispatched for it, sent to it or pinged; if it is not, its stream is never removed. Nothing
here depends on a disconnect handler being registered. -/
theorem removed_once_then_silence (h : Handlers) (s : AppState) (is : List IterInput) (hp : s.phase = .running)
    (hok : RunOk h s is = true) (hd : DistinctPeers s is) (a : Addr) :
    closings a is ≤ 1 ∧
    (closings a is = 1 → RemovedOnceThenSilence a (runLoop h s is).2) ∧
    (closings a is = 0 → (runLoop h s is).2.count (.drop a) = 0) := by
  obtain ⟨hle, hx⟩ := gone_once_then_silence h hp hok hd a
  obtain ⟨hcount, hs⟩ := hx (.drop a) (by simp [onGone])
  exact ⟨hle, fun hc => ⟨hcount.trans hc, hs⟩, hcount.trans⟩

/-- **Once found closed, never polled again — for EVERY configuration.** After the iteration whose poll finds
the client closed, broken or timed out, no later iteration polls it: it has left the table (`RunOk`: the streams
polled are exactly the keys of the table). -/
theorem closed_client_not_polled_again (h : Handlers) (s : AppState) (is : List IterInput)
    (hp : s.phase = .running) (hok : RunOk h s is = true) (hd : DistinctPeers s is) (a : Addr) :
    notPolledAfterClose a (executed is) = true :=
  have ⟨_, _, _, hB⟩ := run_trace hp hok
  notPolled_body a _ _ hB (nodup_admitted hd)

/-- **Disconnect exactly once, then silence** (app with a disconnect handler). If the client is found closed,
broken or timed out, the disconnect handler is dispatched exactly once and afterwards nothing is dispatched for
it, sent to it or pinged (what follows for it is its removal). If it is not, or if there is no disconnect
handler, the disconnect handler is never dispatched for it. -/
theorem disconnect_once_then_silence (h : Handlers) (s : AppState) (is : List IterInput)
    (hp : s.phase = .running) (hok : RunOk h s is = true) (hd : DistinctPeers s is) (a : Addr) :
    (h.disconnect = true → closings a is = 1 → DisconnectOnceThenSilence a (runLoop h s is).2) ∧
    ((h.disconnect = false ∨ closings a is = 0) → (runLoop h s is).2.count (.dispatchDisconnect a) = 0) := by
  constructor
  · intro hdh hc
    obtain ⟨hcount, hs⟩ := (gone_once_then_silence h hp hok hd a).2 (.dispatchDisconnect a) (by simp [onGone, hdh])
    exact ⟨hcount.trans hc, hs⟩
  · intro hc
    rw [count_gone h a (Or.inl rfl) hp hok]
    rcases hc with hc | hc
    · simp [onGone, hc]
    · rw [hc, Nat.zero_mul]

/-- **Nothing for a client that never connected — for EVERY configuration.** An address that is not in the table
at the start and is not admitted during the run gets no dispatch, no send, no ping and no removal. -/
theorem never_admitted_silent (h : Handlers) (s : AppState) (is : List IterInput) (hp : s.phase = .running)
    (hok : RunOk h s is = true) (a : Addr) (h1 : a ∉ s.streams) (h2 : a ∉ admitted is) :
    Silent a (runLoop h s is).2 := by
  intro e he
  apply silent_of_addr_ne
  intro hadr
  rcases addr_trace hp hok he with rfl | ⟨b, hb, hm⟩
  · cases hadr
  · cases hb.symm.trans hadr
    exact hm.elim h1 h2

/-- **A unicast reaches only its addressee — for EVERY configuration.** In any iteration from any table, the
effects of flushing a unicast to `a` (delimited as what lies between the trace of the same iteration with the
flush stopped before that message and the flush of the remaining messages) are: exactly one `sendTo a` of the
message's frame when `a` is connected at that moment, nothing when it is not (unknown or already disconnected
address), and never anything for anybody else. -/
theorem unicast_only_addressee (h : Handlers) (s : AppState) (i : IterInput) (hs : i.shutdown = false)
    (hok : InputsOk s i = true) (a : Addr) (m : Msg) (o1 o2 : List Out)
    (hout : i.outgoing = o1 ++ .unicast a m :: o2) :
    ∃ seg, (stepLoop h s i).2 =
        (stepLoop h s { i with outgoing := o1 }).2 ++ seg ++ flush (stepLoop h s i).1.streams o2 ∧
      UnicastOk (liveAtFlush s.streams i) a m seg := by
  refine ⟨_, flush_split hs hok hout, ?_⟩
  rw [deliver]
  unfold UnicastOk
  by_cases hm : a ∈ nextStreams s.streams i <;> simp [hm, mem_liveAtFlush]

/-- **A broadcast reaches every client connected at that moment exactly once, and nobody else — for EVERY
configuration.** -/
theorem broadcast_each_connected_once (h : Handlers) (s : AppState) (i : IterInput) (hn : s.streams.Nodup)
    (hs : i.shutdown = false) (hok : InputsOk s i = true) (m : Msg) (order : List Addr) (o1 o2 : List Out)
    (hout : i.outgoing = o1 ++ .broadcast m order :: o2) :
    ∃ seg, (stepLoop h s i).2 =
        (stepLoop h s { i with outgoing := o1 }).2 ++ seg ++ flush (stepLoop h s i).1.streams o2 ∧
      BroadcastOk (liveAtFlush s.streams i) m seg := by
  refine ⟨_, flush_split hs hok hout, fun b hb => ?_, fun e he => ?_⟩
  · rw [deliver_broadcast_count (nodup_nextStreams i hn), if_pos (mem_liveAtFlush.1 hb)]
  · obtain ⟨b, hb, rfl⟩ := List.mem_map.1 he
    exact ⟨b, mem_liveAtFlush.2 (mem_recipients.1 hb), rfl⟩

/-- The two flush theorems speak about every iteration of every run: a run's trace is the concatenation of
its iterations' traces, each taken from the table the run has reached, and that table has no address twice. -/
theorem run_decomposes (h : Handlers) (s : AppState) (pre : List IterInput) (i : IterInput)
    (post : List IterInput)
    (hp : s.phase = .running) (hn : s.streams.Nodup) (hok : RunOk h s (pre ++ i :: post) = true)
    (hpre : ∀ j ∈ pre, j.shutdown = false) :
    let sk := (runLoop h s pre).1
    (runLoop h s (pre ++ i :: post)).2 =
      (runLoop h s pre).2 ++ (stepLoop h sk i).2 ++ (runLoop h (stepLoop h sk i).1 post).2 ∧
    sk.phase = .running ∧ sk.streams.Nodup ∧ InputsOk sk i = true := by
  intro sk
  obtain ⟨_, _, hph, hnd, hrun⟩ := runLoop_pre (h := h) pre s hp hpre hok
  simp only [RunOk, hph, bne_self_eq_false, Bool.false_or, Bool.and_eq_true] at hrun
  refine ⟨?_, hph, hnd hn, hrun.1⟩
  rw [runLoop_append, runLoop, if_pos hph, List.append_assoc]

/-- **A shutdown signal makes `run` return — for EVERY configuration.** The loop is left at the first iteration
whose input has the flag: the trace is the trace of the iterations before it followed by `exit`, which is its
only `exit`; nothing of the later inputs is looked at. -/
theorem shutdown_returns (h : Handlers) (s : AppState) (pre : List IterInput) (i : IterInput)
    (post : List IterInput)
    (hp : s.phase = .running) (hok : RunOk h s (pre ++ i :: post) = true)
    (hpre : ∀ j ∈ pre, j.shutdown = false) (hi : i.shutdown = true) :
    (runLoop h s (pre ++ i :: post)).2 = (runLoop h s pre).2 ++ [.exit] ∧
    ExitsLast (runLoop h s (pre ++ i :: post)).2 ∧
    (runLoop h s (pre ++ i :: post)).1.phase = .exited := by
  obtain ⟨hpre', hB, hph, _, _⟩ := runLoop_pre (h := h) pre s hp hpre hok
  rw [runLoop_append, runLoop_shutdown h post hph hi]
  refine ⟨rfl, ⟨by simp, ?_⟩, rfl⟩
  rw [hpre', List.count_append, List.count_eq_zero_of_not_mem fun hm => by
    obtain ⟨b, hb, _⟩ := addr_body _ _ hB _ hm
    cases hb]
  rfl

/-! ### Whoever issues it

The handles through which messages reach the channel (`Handle` = what `AsyncStream::send` / `broadcast` look at,
`senderSend` / `senderBroadcast` = `AsyncSender`). A broadcast is queued whoever issues it: through the stream of
a connected client, through the DISCONNECTED stream a disconnect handler is given, or through an `AsyncSender`.
That the loop takes what was queued is a fact about the channel (`std::sync::mpsc`, trusted) which the driver
checks on every run from the issuers' own records (`issuedAreFlushed`). -/

/-- **Every handle queues a broadcast, exactly one, unchanged** - `connected` or not, whatever its address; an
`AsyncSender` queues what it is given; `AsyncStream::send` queues one unicast to the stream's own client when
connected and panics (`assert!`) when not. These are the defining equations of the model of the handles
(`Model/WsApp.lean`); they are tied to `async_app.rs` by the correspondence run, which puts every recorded
call through them. -/
theorem broadcast_queued_whoever_issues (hd : Handle) (m : Msg) (a : Addr) :
    hd.broadcast m = .queued [.broadcast m []] ∧ senderBroadcast m = .queued [.broadcast m []] ∧
    senderSend a m = .queued [.unicast a m] ∧
    hd.send m = (if hd.connected then .queued [.unicast hd.addr m] else .panic) :=
  ⟨rfl, rfl, rfl, rfl⟩

/-- **A broadcast issued through ANY stream object reaches every client connected at the flush exactly once.**
Whatever handle `hd` a handler holds (the disconnected one of a client that closed, broke or timed out included):
the iteration that takes what `hd.broadcast m` queued sends the frame of `m` once to each client connected at
that flush and to nobody else. -/
theorem issued_broadcast_each_connected_once (h : Handlers) (s : AppState) (i : IterInput) (hn : s.streams.Nodup)
    (hs : i.shutdown = false) (hok : InputsOk s i = true) (hd : Handle) (m : Msg) (o : Out) (o1 o2 : List Out)
    (hq : hd.broadcast m = .queued [o]) (hout : i.outgoing = o1 ++ o :: o2) :
    ∃ seg, (stepLoop h s i).2 =
        (stepLoop h s { i with outgoing := o1 }).2 ++ seg ++ flush (stepLoop h s i).1.streams o2 ∧
      BroadcastOk (liveAtFlush s.streams i) m seg := by
  cases hq
  exact broadcast_each_connected_once h s i hn hs hok m [] o1 o2 hout

/-! ### Non-vacuity -/

def demoInputs : List IterInput :=
  [ { incoming := [1, 2] },
    { polls := [⟨2, [.msg ⟨true, [104]⟩, .msg ⟨false, []⟩, .none], false⟩, ⟨1, [.none], false⟩],
      outgoing := [.unicast 2 ⟨true, [104]⟩, .broadcast ⟨true, [33]⟩ [2, 1], .unicast 7 ⟨true, []⟩], willPing := true },
    { polls := [⟨1, [.msg ⟨true, [1]⟩, .err], false⟩, ⟨2, [.none], true⟩], incoming := [3],
      outgoing := [.unicast 1 ⟨true, [2]⟩, .broadcast ⟨false, [9]⟩ [3]] },
    { shutdown := true },
    { incoming := [4] } ]

/-- `InputsOk` (along a run) and `DistinctPeers` are satisfiable, by a run with two clients that connect, send,
are closed (one by `Err`, one by timeout), a third that stays, unicasts, broadcasts and a shutdown — with all
handlers, with none, and with a message handler only. -/
example : RunOk {} {} demoInputs = true ∧ DistinctPeers {} demoInputs := by decide
example : RunOk ⟨false, false, false⟩ {} demoInputs = true := by decide
example : RunOk ⟨false, true, false⟩ {} demoInputs = true := by decide

example : InputsOk { streams := [5, 6] } { polls := [⟨6, [.err], false⟩, ⟨5, [.msg ⟨true, []⟩, .none], true⟩] } = true := by
  decide

def blank : Effect → Effect
  | .sendTo a _ => .sendTo a []
  | e => e

/-- The trace of that run with all three handlers. -/
example : (runLoop {} {} demoInputs).2.map blank =
  [ .dispatchConnect 1, .dispatchConnect 2,
    .dispatchMessage 2 ⟨true, [104]⟩, .dispatchMessage 2 ⟨false, []⟩, .ping 2, .ping 1,
    .sendTo 2 [], .sendTo 2 [], .sendTo 1 [],
    .dispatchMessage 1 ⟨true, [1]⟩, .dispatchDisconnect 1, .drop 1, .dispatchDisconnect 2, .drop 2,
    .dispatchConnect 3,
    .sendTo 3 [], .exit ] := rfl

/-- The same run without any handler: the same pings, sends and removals, no dispatch; the same tables. -/
example : (runLoop ⟨false, false, false⟩ {} demoInputs).2.map blank =
  [ .ping 2, .ping 1, .sendTo 2 [], .sendTo 2 [], .sendTo 1 [], .drop 1, .drop 2, .sendTo 3 [], .exit ] ∧
  (runLoop ⟨false, false, false⟩ {} demoInputs).1 = (runLoop {} {} demoInputs).1 := by decide

/-- With a message handler only: messages are dispatched, the two
closed clients are removed without a disconnect dispatch, the later unicast to client 1 reaches nobody. -/
example : (runLoop ⟨false, true, false⟩ {} demoInputs).2.map blank =
  [ .dispatchMessage 2 ⟨true, [104]⟩, .dispatchMessage 2 ⟨false, []⟩, .ping 2, .ping 1,
    .sendTo 2 [], .sendTo 2 [], .sendTo 1 [],
    .dispatchMessage 1 ⟨true, [1]⟩, .drop 1, .drop 2, .sendTo 3 [], .exit ] := rfl

/-- `closings … = 1` is satisfiable (clients 1 and 2 of the demo run), so the removal theorem is not vacuous. -/
example : closings 1 demoInputs = 1 ∧ closings 2 demoInputs = 1 ∧ closings 3 demoInputs = 0 := by decide

/-- What the removal clause rejects: a trace in which the closed client stays in the table and is written to
again (the shape a loop produces that forgets `streams.remove` when no disconnect handler is registered). -/
example : ¬ RemovedOnceThenSilence 1 [.dispatchMessage 1 ⟨true, [1]⟩, .sendTo 1 [], .exit] := by decide
example : ¬ RemovedOnceThenSilence 1 [.drop 1, .sendTo 1 [], .exit] := by decide
example : notPolledAfterClose 1 [{ polls := [⟨1, [.err], false⟩] }, { polls := [⟨1, [.none], false⟩] }] = false := by
  decide

/-! ### The heartbeat clauses

`timedOut` and `willPing` are INPUTS of the model (clock readings), so no theorem above can say when they must be
true. What the heartbeat owes the clients is stated in `Spec/WsApp.lean` over the observable timeline of a run
(`liveClientKept`, `silentClientTimedOut`, `pingCadenceOk`) and evaluated by the driver on every real run with a
heartbeat, from the scripted sockets' delivery times and the tracer's events. The clauses separate good from bad
timelines (timeout 8, interval 5): -/

/-- a client whose Pong was delivered at [6, 7] may be timed out at 14, not at 13 - wherever in its frame stream
the Pong stood -/
example : liveClientKept 8 none [.life 0 1, .alive 5, .life 6 7, .timedOut 14] = true := by decide
example : liveClientKept 8 none [.life 0 1, .alive 5, .life 6 7, .timedOut 13] = false := by decide
/-- a client silent since [0, 1] may be kept at 8, not at 9 -/
example : silentClientTimedOut 8 none [.life 0 1, .alive 8] = true := by decide
example : silentClientTimedOut 8 none [.life 0 1, .alive 9] = false := by decide
example : silentClientTimedOut 8 none [.life 0 1, .alive 8, .life 8 9, .alive 16] = true := by decide
/-- pings are `interval` apart: not closer, and none left out -/
example : pingCadenceOk 5 none [.pinged 0 1, .notPinged 5, .pinged 6 7, .notPinged 11] = true := by decide
example : pingCadenceOk 5 none [.pinged 0 1, .pinged 3 4] = false := by decide
example : pingCadenceOk 5 none [.pinged 0 1, .notPinged 6] = false := by decide

/-! ### Who sends: the clauses on the issuers' records -/

/-- a broadcast handed over (through a disconnected stream or otherwise) when 3 iterations had started must have
been taken by a run of 4 iterations, need not by a run of 3; a unicast to the client that has gone need never -/
example : issuedAreFlushed 4 [{ stamp := some 3, out := .broadcast ⟨true, [1]⟩ [] }] [] = false := by decide
example : issuedAreFlushed 3 [{ stamp := some 3, out := .broadcast ⟨true, [1]⟩ [] }] [] = true := by decide
example : issuedAreFlushed 4 [{ stamp := some 3, out := .broadcast ⟨true, [1]⟩ [] }] [.broadcast ⟨true, [1]⟩ [2, 5]] = true := by
  decide
example : issuedAreFlushed 4 [{ stamp := some 3, out := .broadcast ⟨true, [1]⟩ [] }, { stamp := some 2, out := .broadcast ⟨true, [1]⟩ [] }]
    [.broadcast ⟨true, [1]⟩ [2, 5]] = false := by decide
example : issuedAreFlushed 9 [{ stamp := some 3, out := .unicast 7 ⟨true, [1]⟩, toGone := true }, { stamp := none, out := .unicast 7 ⟨true, []⟩ }] [] = true := by
  decide
example : flushedWereIssued [{ stamp := some 3, out := .unicast 7 ⟨true, [1]⟩ }] [.unicast 7 ⟨true, [1]⟩, .unicast 7 ⟨true, [1]⟩] = false := by
  decide
/-- the disconnected stream: its broadcast is queued, its unicast panics -/
example : (Handle.mk 3 false).broadcast ⟨true, [9]⟩ = .queued [.broadcast ⟨true, [9]⟩ []] ∧
    (Handle.mk 3 false).send ⟨true, [9]⟩ = .panic ∧ (Handle.mk 3 true).send ⟨true, [9]⟩ = .queued [.unicast 3 ⟨true, [9]⟩] := by
  decide

/-- Without `DistinctPeers` the connect statement fails: an address admitted twice gets two connect dispatches. -/
example : (runLoop {} {} [{ incoming := [1] }, { polls := [⟨1, [.err], false⟩] }, { incoming := [1] }]).2.count
    (.dispatchConnect 1) = 2 := by decide

end Humphrey.Props.C12
