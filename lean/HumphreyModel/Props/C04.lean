import HumphreyModel.Model.Conn
import HumphreyModel.Props.C05
import HumphreyModel.Proofs.RouteFallback

/-!
# C04 — routing: first matching host, then first matching route, else default, else 404

Model: `Model/Route.lean` (`getHandler`, `wsHandler`), used by the connection loop of
`Model/Conn.lean`. The statements are over the glob *relation* `Glob` (C05's spec), not over the
matcher: `wildcard_match_iff_glob` carries them across.
-/
namespace Humphrey.Http
open Humphrey Humphrey.Glob

/-- `x` is the first element of `l` satisfying `P`. -/
def FirstSuch {α : Type} (P : α → Prop) (l : List α) (x : α) : Prop :=
  ∃ pre post, l = pre ++ x :: post ∧ P x ∧ ∀ y ∈ pre, ¬ P y

theorem find?_some_iff_firstSuch {α : Type} (p : α → Bool) (l : List α) (x : α) :
    l.find? p = some x ↔ FirstSuch (fun y => p y = true) l x := by
  rw [List.find?_eq_some_iff_append]
  constructor
  · rintro ⟨hp, as, bs, rfl, hall⟩
    exact ⟨as, bs, rfl, hp, fun y hy => by simpa using hall y hy⟩
  · rintro ⟨as, bs, rfl, hp, hall⟩
    exact ⟨hp, as, bs, rfl, fun y hy => by simpa using hall y hy⟩

/-- The first route of `routes` whose pattern matches `path` (as a relation). -/
def FirstRoute {κ : Type} (routes : List (RouteEntry κ)) (path : List Char) (r : RouteEntry κ) : Prop :=
  FirstSuch (fun r => Glob r.pattern path) routes r

def NoRoute {κ : Type} (routes : List (RouteEntry κ)) (path : List Char) : Prop :=
  ∀ r ∈ routes, ¬ Glob r.pattern path

/-- The sub-application that takes a request: the first whose host pattern matches the Host header. -/
def FirstHost {κ ω : Type} (subs : List (SubApp κ ω)) (host : List Char) (s : SubApp κ ω) : Prop :=
  FirstSuch (fun s => Glob s.host host) subs s

/-- The matcher's `find?` and the declarative "first element whose pattern matches" agree, whatever
field `f` holds the pattern: hosts of sub-applications, HTTP routes, WebSocket routes. -/
theorem find?_wildcard_some_iff {α : Type} (f : α → List Char) (l : List α) (t : List Char) (x : α) :
    FirstSuch (fun y => Glob (f y) t) l x ↔ l.find? (fun y => wildcardMatch (f y) t) = some x := by
  rw [find?_some_iff_firstSuch]
  simp only [FirstSuch, wildcard_match_iff_glob]

theorem find?_wildcard_none_iff {α : Type} (f : α → List Char) (l : List α) (t : List Char) :
    (∀ y ∈ l, ¬ Glob (f y) t) ↔ l.find? (fun y => wildcardMatch (f y) t) = none := by
  simp only [List.find?_eq_none, wildcard_match_iff_glob]

/-- **C04 (HTTP routes).** The chosen handler is: the first matching route of the first sub-app whose
host pattern matches the Host header; if there is no Host header, no sub-app matches, or that
sub-app has no matching route, the first matching route of the default application. -/
theorem getHandler_some_iff {κ ω : Type} (app : App κ ω) (host : Option (List Char))
    (path : List Char) (r : RouteEntry κ) :
    getHandler app host path = some r ↔
      (∃ h s, host = some h ∧ FirstHost app.subapps h s ∧ FirstRoute s.routes path r) ∨
      ((host = none ∨ (∃ h, host = some h ∧ ∀ s ∈ app.subapps, ¬ Glob s.host h) ∨
        (∃ h s, host = some h ∧ FirstHost app.subapps h s ∧ NoRoute s.routes path)) ∧
       FirstRoute app.default.routes path r) := by
  simp only [FirstHost, FirstRoute, NoRoute, find?_wildcard_some_iff, find?_wildcard_none_iff]
  rw [getHandler_eq, fallback_some_iff]

/-- When no handler is chosen, the default application has no matching route (the fallback always
ends there); the connection loop then answers 404. -/
theorem getHandler_none_imp {κ ω : Type} (app : App κ ω) (host : Option (List Char)) (path : List Char)
    (h : getHandler app host path = none) : NoRoute app.default.routes path := by
  rw [NoRoute, find?_wildcard_none_iff]
  rw [getHandler_eq, fallback_none_iff] at h
  exact h.1

/-- An unrouted (non-upgrade) request is answered 404. -/
theorem no_match_404 {κ ω : Type} (cfg : ConnCfg κ ω) (req : Request) (ka : Bool)
    (h : getHandler cfg.app ((req.headers.get hHost).map cfg.decode) (cfg.decode req.uri) = none) :
    ∃ r, respond cfg req ka = some r ∧ r.status = 404 := by
  unfold respond
  simp only [h]
  split <;> exact ⟨_, rfl, rfl⟩

/-- Without a Host header an upgrade request goes to the first matching WebSocket route of the default
application. The full rule is `wsHandler_some_iff` / `wsHandler_none_iff` in `Props/C04Ws.lean`. -/
theorem wsHandler_default_of_no_host {κ ω : Type} (app : App κ ω) (path : List Char) :
    wsHandler app none path =
      (app.default.wsRoutes.find? (fun r => wildcardMatch r.1 path)).map (·.2) := rfl

-- Non-vacuity: a two-host application in which the second route of the first matching host wins.
example :
    let app : App Nat Nat :=
      ⟨[⟨"*.example.com".toList, [⟨"/a".toList, 1, {}⟩, ⟨"/*".toList, 2, {}⟩], []⟩], ⟨"*".toList, [⟨"/*".toList, 3, {}⟩], []⟩⟩
    (getHandler app (some "x.example.com".toList) "/b".toList).map (·.handler) = some 2 := by
  -- literals to character lists first: `toList` of a literal is dear to evaluate in the kernel
  repeat rw [String.toList_ofList]
  simp [getHandler, wildcardMatch, matchNoStar, matchStar, allStars]

end Humphrey.Http
