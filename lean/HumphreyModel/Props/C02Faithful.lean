import HumphreyModel.Props.C02
import HumphreyModel.Proofs.HttpReqParse
import HumphreyModel.Proofs.HttpReqRound
import HumphreyModel.Proofs.HttpReqParsed

/-!
# C02 — faithfulness and round trip of the request parser

Specification: `Spec/HttpReq.lean` (`WfReq`, `WfReq.render`, `WfReq.denote`, `WfReq.WF`, `ReqEquiv`,
`Request.WFParsed`). Model: `Model/Http.lean`. Segmentation independence for every input is
`Props/C02.lean`; it is used here to lift the statements from the flat stream to every chunking.
-/
namespace Humphrey.Http
open Humphrey Humphrey.IO Humphrey.Bytes

/-- **C02, faithfulness.** The parser run on the bytes of a well-formed request followed by arbitrary
bytes `rest` returns exactly the request the bytes denote and leaves exactly `rest` unread. -/
theorem parse_render (r : WfReq) (env : Env) (h : r.WF) (rest : Bytes) :
    parseRequest flatSource env (r.render ++ rest) = .ok (r.denote env, rest) :=
  parse_render_core r env h.core rest

/-- **C02, faithfulness for every segmentation.** However the bytes are cut into reads. -/
theorem parse_render_chunked (r : WfReq) (env : Env) (h : r.WF) (rest : Bytes) (chunks : List Bytes)
    (hc : chunks.flatten = r.render ++ rest) :
    ∃ rd : Reader, parseRequest readerSource env ⟨[], chunks⟩ = .ok (r.denote env, rd) ∧ rd.rest = rest :=
  parse_chunks_of_flat (by rw [hc]; exact parse_render r env h rest)

/-- Same statements under the weaker hypothesis `WfReq.Core` (only what the parser needs: CR is
allowed inside fields, names may be empty, Content-Length may be spelled `+5` or `005`). -/
theorem parse_render_core_chunked (r : WfReq) (env : Env) (h : r.Core) (rest : Bytes) (chunks : List Bytes)
    (hc : chunks.flatten = r.render ++ rest) :
    ∃ rd : Reader, parseRequest readerSource env ⟨[], chunks⟩ = .ok (r.denote env, rd) ∧ rd.rest = rest :=
  parse_chunks_of_flat (by rw [hc]; exact parse_render_core r env h rest)

/-- Header fields of the parsed request: for every name (any case), the values of the fields so
named (compared ASCII-case-insensitively), in the order they were written. -/
theorem get_all_parsed (r : WfReq) (env : Env) (n : Bytes) :
    (r.denote env).headers.getAll (HName.ofName n) =
      (r.headers.filter (fun h => asciiLower h.name = asciiLower n)).map (·.value) := by
  simp only [WfReq.denote, Headers.getAll, List.filter_map, List.map_map]
  congr 1
  apply List.filter_congr
  intro h _
  simp [WfHeader.denote, HName.ofName]

/-- The same, read off the parser's result. -/
theorem get_all_parsed' (r : WfReq) (env : Env) (h : r.WF) (rest : Bytes) (n : Bytes) :
    ∃ q, parseRequest flatSource env (r.render ++ rest) = .ok (q, rest) ∧
      q.headers.getAll (HName.ofName n) =
        (r.headers.filter (fun h => asciiLower h.name = asciiLower n)).map (·.value) :=
  ⟨_, parse_render r env h rest, get_all_parsed r env n⟩

/-- `Headers::iter` (a stable sort by category and displayed name, after the D12 repair) keeps, for every
name, the values of the fields so named in their original order. No hypothesis on the headers. -/
theorem sorted_getAll (hs : Headers) (n : HName) : hs.sorted.getAll n = hs.getAll n :=
  getAll_sorted hs n

/-- … hence also the first value (`Headers::get`). -/
theorem sorted_get' (hs : Headers) (n : HName) : hs.sorted.get n = hs.get n := sorted_get hs n

theorem ReqEquiv.refl (q : Request) : ReqEquiv q q := ⟨rfl, rfl, rfl, rfl, rfl, fun _ => rfl⟩

theorem ReqEquiv.get {a b : Request} (h : ReqEquiv a b) (n : HName) : a.headers.get n = b.headers.get n := by
  rw [get_eq_head_getAll, get_eq_head_getAll, h.getAll]

/-- Equal requests have the same cookie list. -/
theorem ReqEquiv.cookies {a b : Request} (h : ReqEquiv a b) : cookies a = cookies b := by
  simp only [Http.cookies, h.get hCookie]

/-- Equal requests seen from the same peer have the same origin and proxy addresses. -/
theorem ReqEquiv.address {a b : Request} (h : ReqEquiv a b) (env : Env) :
    Address.fromHeaders env.parseIp trim a.headers env.peer env.port =
    Address.fromHeaders env.parseIp trim b.headers env.peer env.port :=
  fromHeaders_congr _ _ _ _ _ _ (h.get hXff)

/-- **C02, round trip.** Serialising a parsed request (`Request.WFParsed`: what `parseRequest` guarantees
of its result) and parsing the bytes again — followed by arbitrary bytes `rest` — yields an equal request
(`ReqEquiv`: method, path, query, version, body, and for every header name the same value sequence), with
the address the parser computes for the original header list; the parser stops exactly at `rest`,
EXCEPT that with zero headers the serialiser has written a blank line too many
(`start CRLF "" CRLF CRLF`), so a stray CRLF is left unread in front of `rest`. -/
theorem roundtrip (q : Request) (env : Env) (hq : q.WFParsed) (rest : Bytes) :
    ∃ q', parseRequest flatSource env (serializeRequest q ++ rest) =
        .ok (q', (if q.headers.isEmpty then crlf else []) ++ rest) ∧
      ReqEquiv q' q ∧
      q'.address = Address.fromHeaders env.parseIp trim q.headers env.peer env.port := by
  have hcore := toWf_core q hq
  have hden : ((toWf q).denote env).headers = q.headers.sorted := toWf_denote_headers q hq
  have hequiv : ReqEquiv ((toWf q).denote env) q := by
    refine ⟨rfl, rfl, ?_, rfl, rfl, fun n => ?_⟩
    · simp only [WfReq.denote, toWf]
      cases hqq : q.query with
      | nil => rfl
      | cons x xs => rfl
    · rw [hden, sorted_getAll]
  have haddr : ((toWf q).denote env).address =
      Address.fromHeaders env.parseIp trim q.headers env.peer env.port := by
    have := hequiv.address env
    simpa [WfReq.denote] using this
  refine ⟨(toWf q).denote env, ?_, hequiv, haddr⟩
  cases hh : q.headers with
  | nil =>
    have hcont : q.content = none := by
      have := hq.content_length
      cases hc : q.content with
      | none => rfl
      | some b =>
        simp only [hc, hh] at this
        obtain ⟨cl, h1, _⟩ := this
        simp [Headers.get] at h1
    have hser : serializeRequest q ++ rest = (toWf q).render ++ (crlf ++ rest) := by
      rw [serialize_eq_render_nil q hh, hcont]
      simp [WfReq.render, toWf, hh, Headers.sorted, renderHeaders, hcont]
    rw [hser, parse_render_core _ env hcore]
    simp
  | cons x xs =>
    have hne : q.headers ≠ [] := by simp [hh]
    rw [serialize_eq_render q hne, parse_render_core _ env hcore]
    simp

/-- The round trip for every segmentation of the serialised bytes. -/
theorem roundtrip_chunked (q : Request) (env : Env) (hq : q.WFParsed) (rest : Bytes) (chunks : List Bytes)
    (hc : chunks.flatten = serializeRequest q ++ rest) :
    ∃ (q' : Request) (rd : Reader), parseRequest readerSource env ⟨[], chunks⟩ = .ok (q', rd) ∧
      rd.rest = (if q.headers.isEmpty then crlf else []) ++ rest ∧ ReqEquiv q' q ∧
      q'.address = Address.fromHeaders env.parseIp trim q.headers env.peer env.port := by
  obtain ⟨q', hp, he, ha⟩ := roundtrip q env hq rest
  obtain ⟨rd, h₁, ht⟩ := parse_chunks_of_flat (by rw [hc]; exact hp)
  exact ⟨q', rd, h₁, ht, he, ha⟩

/-- **Whatever the parser returns satisfies `WFParsed`** — for every input and every segmentation. -/
theorem parseRequest_wfParsed (env : Env) (chunks : List Bytes) (q : Request) (rd : Reader)
    (hp : parseRequest readerSource env ⟨[], chunks⟩ = .ok (q, rd)) :
    q.WFParsed ∧ q.address = Address.fromHeaders env.parseIp trim q.headers env.peer env.port :=
  parseRequest_flat_inv env _ _ _ (parseRequest_reader_flat env _ _ _ hp)

/-- The same on the flat stream. -/
theorem parseRequest_flat_wfParsed (env : Env) (s : Bytes) (q : Request) (s' : Bytes)
    (hp : parseRequest flatSource env s = .ok (q, s')) :
    q.WFParsed ∧ q.address = Address.fromHeaders env.parseIp trim q.headers env.peer env.port :=
  parseRequest_flat_inv env s q s' hp

/-- **C02, round trip, closed form**: parse anything (any bytes, any segmentation); if that yields a request
`q`, then serialising `q` and parsing the result again (any segmentation, any following bytes, same peer)
yields a request equal to `q` (`ReqEquiv`) with the same address and the same cookies. -/
theorem parse_serialize_parse (env : Env) (chunks : List Bytes) (q : Request) (rd : Reader)
    (hp : parseRequest readerSource env ⟨[], chunks⟩ = .ok (q, rd))
    (rest : Bytes) (chunks' : List Bytes) (hc : chunks'.flatten = serializeRequest q ++ rest) :
    ∃ (q' : Request) (rd' : Reader), parseRequest readerSource env ⟨[], chunks'⟩ = .ok (q', rd') ∧
      rd'.rest = (if q.headers.isEmpty then crlf else []) ++ rest ∧
      ReqEquiv q' q ∧ q'.address = q.address ∧ cookies q' = cookies q := by
  obtain ⟨hwf, haddr⟩ := parseRequest_wfParsed env chunks q rd hp
  obtain ⟨q', rd', h1, h2, h3, h4⟩ := roundtrip_chunked q env hwf rest chunks' hc
  exact ⟨q', rd', h1, h2, h3, by rw [h4, haddr], h3.cookies⟩

theorem exampleReq_wf : exampleReq.WF := WfReq.wf_of_wfb (by decide +kernel)

example : exampleReq.WF := exampleReq_wf

example : exampleReq.render =
    [80, 79, 83, 84, 32, 47, 97, 63, 120, 61, 49, 32, 72, 84, 84, 80, 47, 49, 46, 49, 13, 10,
     72, 111, 115, 116, 58, 32, 104, 13, 10,
     99, 111, 110, 116, 101, 110, 116, 45, 76, 69, 78, 71, 84, 72, 58, 32, 9, 51, 13, 10,
     88, 45, 65, 58, 118, 13, 10, 13, 10, 97, 98, 99] := rfl

/-- A request without a body and without headers is well-formed too. -/
example : (⟨.get, [47], none, [72, 84, 84, 80, 47, 49, 46, 48], [], none⟩ : WfReq).WF :=
  WfReq.wf_of_wfb (by decide)

/-- `WFParsed` is inhabited by the denotation of the example (it is what the parser returns for it). -/
example : (exampleReq.denote ⟨[49], 80, fun _ => none⟩).WFParsed :=
  (parseRequest_flat_wfParsed _ _ _ _
    (parse_render exampleReq ⟨[49], 80, fun _ => none⟩ exampleReq_wf [])).1

/-- The serialisation of that request: headers sorted (Host, Content-Length, then the custom name),
names in the table's spelling or lower-cased, `": "` after each name:
`POST /a?x=1 HTTP/1.1 / Host: h / Content-Length: 3 / x-a: v / / abc`. -/
example : serializeRequest (exampleReq.denote ⟨[49], 80, fun _ => none⟩) =
    [80, 79, 83, 84, 32, 47, 97, 63, 120, 61, 49, 32, 72, 84, 84, 80, 47, 49, 46, 49, 13, 10, 72, 111, 115, 116, 58, 32, 104, 13, 10, 67, 111, 110, 116, 101, 110, 116, 45, 76, 101, 110, 103, 116, 104, 58, 32, 51, 13, 10, 120, 45, 97, 58, 32, 118, 13, 10, 13, 10, 97, 98, 99] := by decide +kernel

/-- With no headers the serialiser writes three CRLFs: `GET / HTTP/1.0 CRLF CRLF CRLF`. -/
example : serializeRequest ((⟨.get, [47], none, [72, 84, 84, 80, 47, 49, 46, 48], [], none⟩ : WfReq).denote
      ⟨[49], 80, fun _ => none⟩) =
    [71, 69, 84, 32, 47, 32, 72, 84, 84, 80, 47, 49, 46, 48, 13, 10, 13, 10, 13, 10] := rfl

end Humphrey.Http
