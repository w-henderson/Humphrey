import HumphreyModel.Proofs.Sha1Eval

/-!
# C18 (SHA-1) — the home-grown SHA-1 is RFC 3174, bit-exact, for every message

Property theorems only. Model: `Model/Sha1.lean` (`sha1.rs`). Spec: `Spec/Sha1.lean` (RFC 3174 §4–§6.1).
-/
namespace Humphrey.Sha1
open Humphrey.Rfc3174

/-- **C18, SHA-1 padding.** The padded message of `sha1.rs`, read as bits, is RFC 3174 §4's padded
message ("1", the minimal number of "0"s to reach 448 mod 512, the 64-bit length) — for every message. -/
theorem pad_eq_rfc3174 (m : Bytes) : bitsOfBytes (pad m) = Rfc3174.pad (bitsOfBytes m) := pad_eq_rfc m

/-- The padded length is `message_len` and a whole number of 64-byte chunks. -/
theorem padded_length (m : Bytes) : (pad m).length = paddedLen m.length ∧ (pad m).length % 64 = 0 :=
  ⟨pad_length m, pad_length m ▸ paddedLen_mod _⟩

/-- **C18, SHA-1.** For every message (shorter than 2^61 bytes, so that `len * 8` fits `usize` as the
Rust code needs) the model of `sha1.rs` returns exactly the RFC 3174 message digest: bit-level padding
of §4, `W(t)`, `f(t;B,C,D)`, `K(t)` and the `A…E` recurrence of §6.1 method 1, all blocks in order.
(The equality itself holds without the bound; the bound is where model and code part.) -/
theorem sha1_eq_rfc3174 (m : Bytes) (_h : m.length < 2 ^ 61) : sha1 m = Rfc3174.digest m :=
  sha1_eq_digest m

/-- The 80-word schedule that `sha1.rs` builds in place for a 64-byte chunk is `W(0) … W(79)` of §6.1. -/
theorem schedule_eq_rfc3174 (block : Bytes) (h : block.length = 64) :
    (schedule block).size = 80 ∧
    ∀ t, t < 80 → (schedule block).toList[t]? = some (W (bitsOfBytes block) t) := by
  have e := schedule_toList block h
  refine ⟨by rw [← Array.length_toList, e, List.length_map, List.length_range], fun t ht => ?_⟩
  rw [e, List.getElem?_map, List.getElem?_range ht]
  rfl

/-- One chunk iteration of `sha1.rs` is `processBlock` of §6.1 (steps a–e). -/
theorem compress_eq_rfc3174 (H : Regs) (block : Bytes) (h : block.length = 64) :
    compress (toState H) block = toState (processBlock H (bitsOfBytes block)) := compress_eq H block h

/-- A digest is 20 bytes. -/
theorem sha1_length (m : Bytes) : (sha1 m).length = 20 := rfl

/-! Labelled tests: the RFC's own vectors (§7.3 TEST1, TEST2 and the empty message) on the model;
each is evaluated once, in `Proofs/Sha1Eval.lean`. -/
example : sha1 "abc".toUTF8.toList =
    [0xA9, 0x99, 0x3E, 0x36, 0x47, 0x06, 0x81, 0x6A, 0xBA, 0x3E, 0x25, 0x71, 0x78, 0x50, 0xC2, 0x6C, 0x9C, 0xD0,
     0xD8, 0x9D] := sha1_test1
example : sha1 "abcdbcdecdefdefgefghfghighijhijkijkljklmklmnlmnomnopnopq".toUTF8.toList =
    [0x84, 0x98, 0x3E, 0x44, 0x1C, 0x3B, 0xD2, 0x6E, 0xBA, 0xAE, 0x4A, 0xA1, 0xF9, 0x51, 0x29, 0xE5, 0xE5, 0x46,
     0x70, 0xF1] := sha1_test2
example : sha1 [] =
    [0xDA, 0x39, 0xA3, 0xEE, 0x5E, 0x6B, 0x4B, 0x0D, 0x32, 0x55, 0xBF, 0xEF, 0x95, 0x60, 0x18, 0x90, 0xAF, 0xD8,
     0x07, 0x09] := sha1_empty

/-! Labelled tests of the SPEC: the same RFC vectors on `Rfc3174.digest` (through `sha1_eq_digest`,
because `W` is the RFC's recurrence and not an efficient program). -/
example : Rfc3174.digest "abc".toUTF8.toList =
    [0xA9, 0x99, 0x3E, 0x36, 0x47, 0x06, 0x81, 0x6A, 0xBA, 0x3E, 0x25, 0x71, 0x78, 0x50, 0xC2, 0x6C, 0x9C, 0xD0,
     0xD8, 0x9D] := sha1_eq_digest _ ▸ sha1_test1
example : Rfc3174.digest "abcdbcdecdefdefgefghfghighijhijkijkljklmklmnlmnomnopnopq".toUTF8.toList =
    [0x84, 0x98, 0x3E, 0x44, 0x1C, 0x3B, 0xD2, 0x6E, 0xBA, 0xAE, 0x4A, 0xA1, 0xF9, 0x51, 0x29, 0xE5, 0xE5, 0x46,
     0x70, 0xF1] := sha1_eq_digest _ ▸ sha1_test2
example : Rfc3174.digest [] =
    [0xDA, 0x39, 0xA3, 0xEE, 0x5E, 0x6B, 0x4B, 0x0D, 0x32, 0x55, 0xBF, 0xEF, 0x95, 0x60, 0x18, 0x90, 0xAF, 0xD8,
     0x07, 0x09] := sha1_eq_digest _ ▸ sha1_empty
/-- The spec's padding on the RFC's own example (§4: the 40-bit message `01100001 … 01100101`). -/
example : Rfc3174.pad (bitsOfBytes [0x61, 0x62, 0x63, 0x64, 0x65]) =
    bitsOfBytes ([0x61, 0x62, 0x63, 0x64, 0x65, 0x80] ++ List.replicate 57 0 ++ [0x28]) := by decide +kernel

end Humphrey.Sha1
