import HumphreyModel.Proofs.GlobMain

/-!
# C05 — `*` matches any character sequence, everything else matches only itself

Property theorems only. Model: `Model/Glob.lean` (the loop of `krauss.rs`).
Spec: `Spec/Glob.lean` (`Glob`, `subst`).
-/
namespace Humphrey.Glob

/-- The derivation-rule spec and the statement's wording ("the string can be obtained from the
pattern by replacing each `*` with some string") are the same relation. -/
theorem glob_iff_subst (p t : List Char) : Glob p t ↔ ∃ fills, subst p fills = some t := by
  constructor
  · intro h
    induction h with
    | nil => exact ⟨[], rfl⟩
    | lit hc _ ih =>
      obtain ⟨fs, hfs⟩ := ih
      exact ⟨fs, by simp [subst, hc, hfs]⟩
    | starSkip _ ih =>
      obtain ⟨fs, hfs⟩ := ih
      exact ⟨[] :: fs, by simp [subst, hfs]⟩
    | @starEat p c t _ ih =>
      obtain ⟨fs, hfs⟩ := ih
      cases fs with
      | nil => simp [subst] at hfs
      | cons f fs =>
        simp only [subst, if_true, Option.map_eq_some_iff] at hfs
        obtain ⟨t', ht', rfl⟩ := hfs
        exact ⟨(c :: f) :: fs, by simp [subst, ht']⟩
  · rintro ⟨fs, hfs⟩
    induction p generalizing fs t with
    | nil =>
      cases fs with
      | nil => simp [subst] at hfs; subst hfs; exact .nil
      | cons f fs => simp [subst] at hfs
    | cons c p ih =>
      by_cases hc : c = '*'
      · subst hc
        cases fs with
        | nil => simp [subst] at hfs
        | cons f fs =>
          simp only [subst, if_true, Option.map_eq_some_iff] at hfs
          obtain ⟨t', ht', rfl⟩ := hfs
          exact glob_star_suffix.mpr ⟨t', List.suffix_append f t', ih t' fs ht'⟩
      · simp only [subst, hc, if_false, Option.map_eq_some_iff] at hfs
        obtain ⟨t', ht', rfl⟩ := hfs
        exact .lit hc (ih t' fs ht')

/-- **C05.** `wildcard_match` answers `true` exactly on the pairs the glob language relates:
for every pattern and text over all of Unicode, any number and placement of `*`. -/
theorem wildcard_match_iff_glob (p t : List Char) : wildcardMatch p t = true ↔ Glob p t :=
  matchNoStar_spec p t

/-- **C05**, in the statement's own words. -/
theorem wildcard_match_iff_subst (p t : List Char) :
    wildcardMatch p t = true ↔ ∃ fills, subst p fills = some t := by
  rw [wildcard_match_iff_glob, glob_iff_subst]

/-- A `*` in the *text* is an ordinary character (it is only special in the pattern). -/
theorem star_in_text_is_literal (t : List Char) : wildcardMatch ['*'] ('*' :: t) = true := by
  rw [wildcard_match_iff_glob]; exact glob_star_suffix.mpr ⟨[], List.nil_suffix, .nil⟩

-- Non-vacuity: both sides of the equivalence are inhabited, on the shapes that defeated the
-- unrepaired matcher (self-overlapping literal after `*`). Each string literal is first turned into
-- its list of characters by `String.toList_ofList`: evaluating `toList` on a literal would make the
-- kernel encode and decode it as UTF-8.
example : wildcardMatch "*aab".toList "aaab".toList = true :=
  (wildcard_match_iff_subst _ _).mpr ⟨["a".toList], by
    repeat rw [String.toList_ofList]
    rfl⟩
example : Glob "*aab".toList "aaab".toList :=
  (glob_iff_subst _ _).mpr ⟨["a".toList], by
    repeat rw [String.toList_ofList]
    rfl⟩
example : wildcardMatch "*.example.com".toList "a.example.example.com".toList = true :=
  (wildcard_match_iff_subst _ _).mpr ⟨["a.example".toList], by
    repeat rw [String.toList_ofList]
    rfl⟩
example : wildcardMatch "a*b".toList "ab😀a".toList = false := by
  repeat rw [String.toList_ofList]
  simp [wildcardMatch, matchNoStar, matchStar, allStars]
example : subst "a*b*".toList ["xx".toList, []] = some "axxb".toList := by
  repeat rw [String.toList_ofList]
  rfl

end Humphrey.Glob
