import HumphreyModel.Proofs.PercentMain

/-!
# C18 (percent-encoding half) — `humphrey/src/percent.rs` is exact with respect to RFC 3986 §2.1/§2.3

Model: `Model/Percent.lean` (the loops of `percent_encode` and
`percent_decode` after the D2 repair). Spec: `Spec/Percent.lean` (`unreserved`, `encode`,
`hexDigitValue`, `Denotes`). All statements are for every byte string, no length bound.
-/
namespace Humphrey.Percent

/-- **Encoder layout.** `percent_encode` is the RFC 3986 layout: every unreserved byte
(ALPHA / DIGIT / `-` `.` `_` `~`) stands for itself, every other byte `b` becomes `%` followed by
the two upper-case hexadecimal digits of `b`. -/
theorem encode_eq_spec (b : Bytes) : encode b = Spec.encode b := by
  induction b with
  | nil => rfl
  | cons x rest ih =>
    have hs : Spec.encode (x :: rest) = Spec.encodeByte x ++ Spec.encode rest := by
      simp [Spec.encode]
    rw [hs, encode, contains_eq_unreserved, ih]
    cases h : Spec.unreserved x
    · simp [escape_eq_spec x h]
    · simp [Spec.encodeByte, h]

/-- **Round trip.** The decoder inverts the encoder on every byte string. -/
theorem decode_encode (b : Bytes) : decode (encode b) = some b :=
  decode_encode' b

/-- **Exactness of the decoder.** `percent_decode` answers `Some(b)` exactly when the text is a
concatenation of literal bytes (anything but `%`) and well-formed escapes `%XY` (two hex digits,
either case) that denotes `b`; in every other case it answers `None`. -/
theorem decode_iff_denotes (s b : Bytes) : decode s = some b ↔ Spec.Denotes s b :=
  ⟨decode_sound s b, decode_complete⟩

/-- **None or exact.** Whatever the decoder returns is what the text denotes. -/
theorem decode_none_or_exact (s : Bytes) :
    decode s = none ∨ ∃ b, decode s = some b ∧ Spec.Denotes s b := by
  cases h : decode s with
  | none => exact .inl rfl
  | some b => exact .inr ⟨b, rfl, decode_sound s b h⟩

/-- **Malformed escapes are rejected.** A `%` anywhere in the text that is not followed by two
hexadecimal digits makes the decoder answer `None` (whatever precedes and follows it). -/
theorem decode_rejects_bad_escape (pre post : Bytes)
    (h : ¬ ∃ x y rest, post = x :: y :: rest ∧
      (Spec.hexDigitValue x).isSome ∧ (Spec.hexDigitValue y).isSome) :
    decode (pre ++ 37 :: post) = none := by
  cases hd : decode (pre ++ 37 :: post) with
  | none => rfl
  | some b => exact absurd (by simpa [hexVal_eq_spec] using decode_pct_digits pre hd) h

/-- The byte string a text denotes is unique: `Denotes` is functional from text to bytes (not the other way
round: `%41` and `A` denote the same byte). -/
theorem denotes_functional {s b₁ b₂ : Bytes} (h₁ : Spec.Denotes s b₁) (h₂ : Spec.Denotes s b₂) :
    b₁ = b₂ :=
  Option.some.inj ((decode_complete h₁).symm.trans (decode_complete h₂))

-- Non-vacuity and the shapes that defeated the unrepaired decoder.
/-- `"%+f"` (D2): a sign is not a hex digit. -/
example : decode [37, 43, 102] = none :=
  decode_rejects_bad_escape [] [43, 102] (by
    rintro ⟨x, y, rest, h, hx, -⟩
    obtain ⟨rfl, -⟩ := List.cons.inj h
    revert hx; decide)
example : decode [37, 52, 49, 37, 54, 49, 32] = some [65, 97, 32] := by decide   -- "%41%61 "
example : Spec.Denotes [37, 52, 102] [79] :=                                     -- "%4f" ↦ "O"
  (decode_iff_denotes _ _).mp (by decide)
example : encode [65, 32, 233] = [65, 37, 50, 48, 37, 69, 57] := by decide       -- "A%20%E9"
example : decode [97, 37] = none := decode_rejects_bad_escape [97] [] (by simp)  -- "a%"

end Humphrey.Percent
