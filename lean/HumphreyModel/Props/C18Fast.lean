import HumphreyModel.Model.CodecTR

/-!
# C18 — the accumulator forms used by the driver on large inputs are the models

`Model/CodecTR.lean` restates the four list codecs with an accumulator so that the compiled driver can
run them on inputs of a mebibyte. These theorems make that restatement invisible: for every input the
accumulator form returns what the plain model returns (hence everything proved about
`Percent.encode/decode` and `Base64.encode/decode` holds of what the driver computes).
-/
namespace Humphrey.Percent

theorem encodeTR_acc (l acc : Bytes) : encodeTR l acc = acc.reverse ++ encode l := by
  induction l generalizing acc with
  | nil => simp [encodeTR, encode]
  | cons b rest ih =>
    simp only [encodeTR, encode]
    split
    · rw [ih]; simp
    · rw [ih]; simp

theorem encodeTR_nil (l : Bytes) : encodeTR l [] = encode l := by
  simp [encodeTR_acc]

theorem decodeTR_acc (l acc : Bytes) : decodeTR l acc = (decode l).map (acc.reverse ++ ·) := by
  fun_induction decode l generalizing acc
  case case1 => simp [decodeTR]
  case case2 h1 h2 rest' hi lo e2 e1 ih =>
    simp only [decodeTR, if_true, e1, e2, ih, Option.map_map]
    congr 1; funext x; simp
  case case3 => simp_all [decodeTR]
  case case4 => simp_all [decodeTR]
  case case5 b rest h ih =>
    unfold decodeTR
    rw [if_neg h, ih, Option.map_map]
    congr 1; funext x; simp

theorem decodeTR_nil (l : Bytes) : decodeTR l [] = decode l := by
  simp [decodeTR_acc]

end Humphrey.Percent

namespace Humphrey.Base64

theorem encodeTR_acc (l acc : Bytes) : encodeTR l acc = acc.reverse ++ encode l := by
  fun_induction encode l generalizing acc <;> simp_all [encodeTR]

theorem encodeTR_nil (l : Bytes) : encodeTR l [] = encode l := by
  simp [encodeTR_acc]

/-- What `decodeGroups` returns with `pre` put in front of a successful result. -/
def prepend (pre : Bytes) : Outcome → Outcome
  | .ok r => .ok (pre ++ r)
  | o => o

theorem decodeGroupsTR_acc (l acc : Bytes) :
    decodeGroupsTR l acc = prepend acc.reverse (decodeGroups l) := by
  fun_induction decodeGroups l generalizing acc <;> simp_all [decodeGroupsTR, prepend]

theorem decodeTR_eq (s : Bytes) : decodeTR s = decode s := by
  unfold decodeTR decode
  split
  · rfl
  · rw [decodeGroupsTR_acc]
    cases decodeGroups s <;> simp [prepend]

end Humphrey.Base64
