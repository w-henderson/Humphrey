import HumphreyModel.Proofs.ConnStreamWitness

/-!
# C01 — the hypothesis `hcr` of `serve_meets_spec`, discharged from a condition on the byte stream

`Props/C01Spec.lean` proves that the connection loop meets its executable specification under `hcr`:
no request that parses from a suffix of the client stream has a bare CR in its version or
`Connection` value. Here `hcr` is derived from a condition that mentions only the BYTES the client
sends (`CRonlyBeforeLF`, `Proofs/ConnHyps.lean`): no CR is immediately followed by a byte other
than LF. The condition is on the whole stream, bodies included: `hcr` quantifies over ALL suffixes of
the stream (a suffix may start inside a body, and a body may spell `GET / A\rB\r\n\r\n`), so no
condition that exempts bodies can imply `hcr` as stated. (Text bodies with CRLF line ends, JSON,
form data … satisfy it; a binary body with a stray CR does not.)

For arbitrary bodies the over-quantification is removed instead: `serve_meets_spec_at_boundaries`
(`Proofs/HttpMsgLoop.lean`) asks `hcr` only at the positions where the loop can start parsing
(`ReqBoundary`), and `serve_meets_spec_clean_heads` discharges that from `HeadsClean`: only the
request line and header lines of each request of the stream must be free of CRs followed by non-LF
bytes.

The hypothesis is necessary: `bare_cr_stream_violates_spec` exhibits a 13-byte stream with a bare CR
in the version on which the loop (with a configuration that satisfies `CfgOk`) writes something the
specification rejects.
-/
namespace Humphrey.Http
open Humphrey Humphrey.Bytes Humphrey.IO

/-- **`hcr` from the byte stream.** If no CR of the client stream is followed by a byte other than
LF, every request that parses from any suffix of the stream is free of bare CRs in the texts the
response echoes. -/
theorem noBareCR_of_stream (env : Env) (s : Reader) (hs : CRonlyBeforeLF s.rest) :
    ∀ (b : Bytes) (req : Request) (b' : Bytes), b <:+ s.rest →
      parseRequest flatSource env b = .ok (req, b') → NoBareCR req :=
  fun b req b' hb hp => noBareCR_of_clean_bytes env b req b' (hs.to_suffix hb) hp

/-- The same for the statement's stricter wording "every CR is immediately followed by LF". -/
theorem noBareCR_of_strict_stream (env : Env) (s : Reader) (hs : CRalwaysBeforeLF s.rest) :
    ∀ (b : Bytes) (req : Request) (b' : Bytes), b <:+ s.rest →
      parseRequest flatSource env b = .ok (req, b') → NoBareCR req :=
  noBareCR_of_stream env s hs.toOnly

/-- **The loop meets its executable specification on every clean stream** — no hypothesis about
parsed requests is left: for a configuration satisfying `CfgOk` and every reader (any segmentation
into reads, any placement of pauses) whose bytes never have a CR followed by a non-LF byte,
`checkConn` finds no violated clause other than the recorded CRLF pad after non-empty bodies. -/
theorem serve_meets_spec_clean_stream {κ ω : Type} (cfg : ConnCfg κ ω) (s : Reader) (hcfg : CfgOk cfg)
    (hs : CRonlyBeforeLF s.rest) :
    Spec.checkConn cfg readerIdle s (serve readerSource readerIdle cfg s).written
      (decide ((serve readerSource readerIdle cfg s).disposition = .handlerPanicked))
      ∈ [none, some "crlf-after-body"] :=
  serve_meets_spec cfg s hcfg (noBareCR_of_stream cfg.env s hs)

/-- Corollary: a clean byte stream cut into reads in any way (the condition is on the concatenation,
so it does not depend on the cut). -/
theorem serve_meets_spec_clean_any_segmentation {κ ω : Type} (cfg : ConnCfg κ ω) (reads : List Bytes)
    (hcfg : CfgOk cfg) (hs : CRonlyBeforeLF reads.flatten) :
    Spec.checkConn cfg readerIdle ⟨[], reads⟩ (serve readerSource readerIdle cfg ⟨[], reads⟩).written
      (decide ((serve readerSource readerIdle cfg ⟨[], reads⟩).disposition = .handlerPanicked))
      ∈ [none, some "crlf-after-body"] :=
  serve_meets_spec_clean_stream cfg ⟨[], reads⟩ hcfg (by simpa [Reader.rest] using hs)

/-! ## Bodies unrestricted: the condition on request heads only -/

/-- **The loop meets its executable specification on every stream whose request heads are clean**
(`HeadsClean`: in every request of the stream, as framed by the parser from the start of the stream,
the bytes before the body never have a CR followed by a non-LF byte). Request bodies may hold
arbitrary bytes. -/
theorem serve_meets_spec_clean_heads {κ ω : Type} (cfg : ConnCfg κ ω) (s : Reader) (hcfg : CfgOk cfg)
    (hs : HeadsClean cfg.env s.rest) :
    Spec.checkConn cfg readerIdle s (serve readerSource readerIdle cfg s).written
      (decide ((serve readerSource readerIdle cfg s).disposition = .handlerPanicked))
      ∈ [none, some "crlf-after-body"] :=
  serve_meets_spec_at_boundaries cfg s hcfg (fun b req b' hbd hp => by
    obtain ⟨head, hb, _⟩ := parseRequest_flat_shape cfg.env b req b' hp
    exact noBareCR_of_clean_head cfg.env b req b' head hp hb (hs b req b' head hbd hp hb))

/-! ## The hypothesis is necessary -/

/-- **Witness.** `GET / A\rB\r\n\r\n` (one read, no pauses) served by `sampleCfg` — which satisfies
`CfgOk` — is accepted by the request parser with version `A\rB`; the loop answers
`A\rB 200 OK\r\n…`, which is not an HTTP message, and the specification's verdict is
`response-not-an-http-message`: NOT one of the two the theorems above allow. So neither `hcr` in
`serve_meets_spec` nor `CRonlyBeforeLF` here can be dropped. -/
theorem bare_cr_stream_violates_spec :
    CfgOk sampleCfg ∧ ¬ CRonlyBeforeLF (⟨[], [bareCRStream]⟩ : Reader).rest ∧
    (∃ req b', parseRequest flatSource sampleCfg.env bareCRStream = .ok (req, b') ∧ ¬ NoBareCR req) ∧
    Spec.checkConn sampleCfg readerIdle ⟨[], [bareCRStream]⟩
      (serve readerSource readerIdle sampleCfg ⟨[], [bareCRStream]⟩).written
      (decide ((serve readerSource readerIdle sampleCfg ⟨[], [bareCRStream]⟩).disposition = .handlerPanicked))
      ∉ [none, some "crlf-after-body"] := by
  refine ⟨sampleCfg_ok, ?_, ⟨bareCRReq, [], rfl, ?_⟩, ?_⟩
  · rw [← cleanStream_decidable]; decide
  · intro h
    exact h.version 13 (by decide) rfl
  · rw [bareCR_verdict]; simp

/-! ## Non-vacuity -/

/-- The sample stream of `Props/C01Spec.lean` (`GET / HTTP/1.1\r\nConnection: keep-alive\r\n\r\n`) is
clean, … -/
example : CRonlyBeforeLF sampleStream := (cleanStream_decidable _).mp (by decide)

/-- … parses to a request (so `noBareCR_of_stream` is exercised on it), … -/
example : ∃ req b', parseRequest flatSource sampleCfg.env sampleStream = .ok (req, b') ∧ NoBareCR req := by
  obtain ⟨⟨req, b'⟩, e⟩ : ∃ p, parseRequest flatSource sampleCfg.env sampleStream = .ok p := ⟨_, rfl⟩
  exact ⟨req, b', e, noBareCR_of_clean_bytes sampleCfg.env sampleStream req b'
    ((cleanStream_decidable sampleStream).mp (by decide)) e⟩

/-- … and `serve_meets_spec_clean_stream` applies to it delivered in two reads followed by a pause
past the timeout, with no hypothesis left to discharge by enumeration of suffixes. -/
example : Spec.checkConn sampleCfg readerIdle ⟨[], [sampleStream.take 5, sampleStream.drop 5, []]⟩
    (serve readerSource readerIdle sampleCfg ⟨[], [sampleStream.take 5, sampleStream.drop 5, []]⟩).written
    (decide ((serve readerSource readerIdle sampleCfg
      ⟨[], [sampleStream.take 5, sampleStream.drop 5, []]⟩).disposition = .handlerPanicked))
    ∈ [none, some "crlf-after-body"] :=
  serve_meets_spec_clean_stream sampleCfg _ sampleCfg_ok ((cleanStream_decidable _).mp (by decide))

/-- A request with a body that contains CRLF line ends (and ends in a lone CR as the very last byte
of the stream) is clean too: `POST / H\r\nContent-Length: 4\r\n\r\na\r\n\r`. -/
example : CRonlyBeforeLF
    [80, 79, 83, 84, 32, 47, 32, 72, 13, 10,
     67, 111, 110, 116, 101, 110, 116, 45, 76, 101, 110, 103, 116, 104, 58, 32, 52, 13, 10, 13, 10,
     97, 13, 10, 13] := (cleanStream_decidable _).mp (by decide)

/-- Strictly weaker: `POST / H\r\nContent-Length: 3\r\n\r\n` + body `\rA\r` has clean heads but two bare
CRs in its body; `serve_meets_spec_clean_heads` applies, `serve_meets_spec_clean_stream` does not. -/
example : HeadsClean sampleCfg.env binaryBodyStream ∧ ¬ CRonlyBeforeLF binaryBodyStream :=
  ⟨binaryBody_headsClean, by rw [← cleanStream_decidable]; decide⟩

example : Spec.checkConn sampleCfg readerIdle ⟨[], [binaryBodyStream.take 20, binaryBodyStream.drop 20]⟩
    (serve readerSource readerIdle sampleCfg ⟨[], [binaryBodyStream.take 20, binaryBodyStream.drop 20]⟩).written
    (decide ((serve readerSource readerIdle sampleCfg
      ⟨[], [binaryBodyStream.take 20, binaryBodyStream.drop 20]⟩).disposition = .handlerPanicked))
    ∈ [none, some "crlf-after-body"] :=
  serve_meets_spec_clean_heads sampleCfg _ sampleCfg_ok (by
    have : (⟨[], [binaryBodyStream.take 20, binaryBodyStream.drop 20]⟩ : Reader).rest = binaryBodyStream := by
      decide
    rw [this]; exact binaryBody_headsClean)

/-- The request of that stream is parsed with its body intact (bare CRs and all). -/
example : parseRequest flatSource sampleCfg.env binaryBodyStream = .ok (binaryBodyReq, []) ∧
    binaryBodyReq.content = some [13, 65, 13] := ⟨binaryBody_parse, rfl⟩

/-- The strict wording implies the condition used. -/
example : CRalwaysBeforeLF [13, 10] → CRonlyBeforeLF [13, 10] := CRalwaysBeforeLF.toOnly

end Humphrey.Http
