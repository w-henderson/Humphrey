import HumphreyModel.Proofs.ConnSim
import HumphreyModel.Proofs.ConnHeaders
import HumphreyModel.Spec.Conn

/-!
# C01 — one well-framed response per request on every connection, in order

Model: `Model/Conn.lean` (`serveLoop`, the loop of `client_handler` after the repairs: one buffered
reader per connection; an OPTIONS request without a route is answered like any other unrouted
request). Spec: `Spec/Conn.lean` (`checkConn`, evaluated on what the real server wrote in every
correspondence case).

Proved here: for EVERY client byte stream and any two segmentations the loop writes the same
responses, dispatches the same requests and ends the same way (so no byte is dropped or attributed
to another request because of how the stream was cut); the per-step behaviour of the loop (408,
400, handler panic, keep-alive); the headers every completed response carries. That the model meets
`checkConn` on all inputs is `serve_meets_spec` in `Props/C01Spec.lean`.
-/
namespace Humphrey.Http
open Humphrey Humphrey.IO

/-- **Segmentation independence of the connection loop.** Any two ways of cutting the same client
byte stream into reads (no pauses past the timeout) give the same written responses, the same
dispatched requests, the same WebSocket hand-off and the same ending; the unread bytes agree. -/
theorem serve_segmentation_independent {κ ω : Type} (cfg : ConnCfg κ ω) (c₁ c₂ : List Bytes)
    (h : c₁.flatten = c₂.flatten) :
    ConnRel (fun r₁ r₂ : Reader => r₁.rest = r₂.rest)
      (serve readerSource (fun _ => none) cfg ⟨[], c₁⟩)
      (serve readerSource (fun _ => none) cfg ⟨[], c₂⟩) := by
  have e : (⟨[], c₁⟩ : Reader).rest = (⟨[], c₂⟩ : Reader).rest := by simp [Reader.rest, h]
  unfold serve
  rw [reader_reader_sim.remaining _ _ e]
  exact serveLoop_sim reader_reader_sim cfg _ _ _ [] [] e

/-- A pause past the timeout between requests is answered 408 and the connection closes. -/
theorem serve_idle_408_close {σ κ ω : Type} (S : Source σ) (idle : σ → Option σ) (cfg : ConnCfg κ ω)
    (fuel : Nat) (s s' : σ) (w : List Bytes) (d : List Request)
    (ht : cfg.timeout = true) (hi : idle s = some s') :
    serveLoop S idle cfg (fuel + 1) s w d =
      ⟨w ++ [serializeResponse (errorResponse 408)], d, none, .closed, s'⟩ := by
  simp [serveLoop, ht, hi]

/-- A malformed request is answered 400 and the connection closes; nothing is dispatched. -/
theorem serve_malformed_400_close {σ κ ω : Type} (S : Source σ) (idle : σ → Option σ)
    (cfg : ConnCfg κ ω) (fuel : Nat) (s : σ) (w : List Bytes) (d : List Request)
    (hi : (if cfg.timeout then idle s else none) = none)
    (hp : parseRequest S cfg.env s = .err .request) :
    serveLoop S idle cfg (fuel + 1) s w d =
      ⟨w ++ [serializeResponse (errorResponse 400)], d, none, .closed, s⟩ := by
  simp [serveLoop, hi, hp]

/-- A client that goes away between (or inside) requests gets nothing more. -/
theorem serve_disconnect_writes_nothing {σ κ ω : Type} (S : Source σ) (idle : σ → Option σ)
    (cfg : ConnCfg κ ω) (fuel : Nat) (s : σ) (w : List Bytes) (d : List Request)
    (hi : (if cfg.timeout then idle s else none) = none)
    (hp : parseRequest S cfg.env s = .err .disconnected ∨ parseRequest S cfg.env s = .err .stream) :
    (serveLoop S idle cfg (fuel + 1) s w d).written = w := by
  rcases hp with hp | hp <;> simp [serveLoop, hi, hp]

/-- A panicking handler stops this connection: nothing is written for that request, what was written
before stays, and the loop ends. (Other connections are C08's `panic_isolated`.) -/
theorem serve_handler_panic {σ κ ω : Type} (S : Source σ) (idle : σ → Option σ)
    (cfg : ConnCfg κ ω) (fuel : Nat) (s s' : σ) (req : Request) (w : List Bytes) (d : List Request)
    (hi : (if cfg.timeout then idle s else none) = none)
    (hp : parseRequest S cfg.env s = .ok (req, s'))
    (hu : req.headers.get hUpgrade ≠ some websocketValue)
    (hr : ∀ ka, respond cfg req ka = none) :
    (serveLoop S idle cfg (fuel + 1) s w d).written = w ∧
    (serveLoop S idle cfg (fuel + 1) s w d).disposition = .handlerPanicked := by
  simp [serveLoop, hi, hp, hu, hr]

/-- The connection stays open after a response iff the request asked for `Connection: keep-alive`
(any case): otherwise exactly one more response is written and the connection closes. -/
theorem serve_closes_without_keepalive {σ κ ω : Type} (S : Source σ) (idle : σ → Option σ)
    (cfg : ConnCfg κ ω) (fuel : Nat) (s s' : σ) (req : Request) (resp : Response)
    (w : List Bytes) (d : List Request)
    (hi : (if cfg.timeout then idle s else none) = none)
    (hp : parseRequest S cfg.env s = .ok (req, s'))
    (hu : req.headers.get hUpgrade ≠ some websocketValue)
    (hk : ∀ c, req.headers.get hConnection = some c → Bytes.asciiLower c ≠ keepAliveLower)
    (hr : respond cfg req false = some resp) :
    (serveLoop S idle cfg (fuel + 1) s w d).written = w ++ [serializeResponse resp] ∧
    (serveLoop S idle cfg (fuel + 1) s w d).disposition = .closed := by
  cases hc : req.headers.get hConnection with
  | none => simp [serveLoop, hi, hp, hu, hc, hr]
  | some c => simp [serveLoop, hi, hp, hu, hc, hk c hc, hr]

theorem serve_continues_with_keepalive {σ κ ω : Type} (S : Source σ) (idle : σ → Option σ)
    (cfg : ConnCfg κ ω) (fuel : Nat) (s s' : σ) (req : Request) (resp : Response) (c : Bytes)
    (w : List Bytes) (d : List Request)
    (hi : (if cfg.timeout then idle s else none) = none)
    (hp : parseRequest S cfg.env s = .ok (req, s'))
    (hu : req.headers.get hUpgrade ≠ some websocketValue)
    (hc : req.headers.get hConnection = some c) (hk : Bytes.asciiLower c = keepAliveLower)
    (hr : respond cfg req true = some resp) :
    ∃ d', serveLoop S idle cfg (fuel + 1) s w d =
      serveLoop S idle cfg fuel s' (w ++ [serializeResponse resp]) d' := by
  simp only [serveLoop, hi, hp, hu, hc, hk, hr, if_false, decide_true, if_true]
  exact ⟨_, rfl⟩

/-- Every completed response echoes the request's version and carries Connection, Server, Date and
Content-Length; when the handler set no Content-Length itself it is the body's length. -/
theorem completed_response_headers (now : Bytes) (req : Request) (r : Response) :
    let c := completeResponse now req r
    c.version = req.version ∧ c.body = r.body ∧ c.status = r.status ∧
    (c.headers.get hConnection).isSome ∧ (c.headers.get hServer).isSome ∧
    (c.headers.get hDate).isSome ∧ (c.headers.get hContentLength).isSome ∧
    (r.headers.get hContentLength = none →
      c.headers.get hContentLength = some (Bytes.natToBytes r.body.length)) := by
  refine ⟨rfl, rfl, rfl, ?_⟩
  -- unfolded once here; left to each `exact` below, the unifier unfolds it again under the `let`
  simp only [completeResponse]
  refine ⟨?_, ?_, ?_, isSome_get_addIfAbsent_self _ _ _, ?_⟩
  · exact isSome_get_addIfAbsent _ _ (isSome_get_addIfAbsent _ _ (isSome_get_addIfAbsent _ _
      (isSome_get_addIfAbsent_self _ _ _)))
  · exact isSome_get_addIfAbsent _ _ (isSome_get_addIfAbsent _ _ (isSome_get_addIfAbsent_self _ _ _))
  · exact isSome_get_addIfAbsent _ _ (isSome_get_addIfAbsent_self _ _ _)
  · intro hno
    rw [get_addIfAbsent, get_addIfAbsent, get_addIfAbsent, get_addIfAbsent, hno,
      if_neg (by decide), if_neg (by decide), if_neg (by decide), if_pos rfl]
    rfl

-- Two reader scripts `c₁ c₂` as `serve_segmentation_independent` takes them: `GET ` cut in two ways.
example : ([[71, 69], [84, 32]] : List Bytes).flatten = ([[71], [69, 84, 32]] : List Bytes).flatten := by
  decide

end Humphrey.Http
