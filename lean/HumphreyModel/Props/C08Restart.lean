import HumphreyModel.Model.PoolRestart
import HumphreyModel.Props.C08

/-!
# C08 for lifecycle scripts that start the pool more than once

Property theorems for `Model/PoolRestart.lean`: every reachable state of the several-runs system, i.e. every
interleaving of the caller (any script over start / execute / stop / start-again / drop), the N workers and the
recovery thread of EVERY run, for every N and every panicking subset. The clauses of the property are shown for every
run of the pool value (`m.runs`): the retired ones and the current one.

Not covered here (still judged by the executable predicates of `Spec/Pool.lean` only): "the pool returns to N usable
workers" for a retired run (`panic_recovery_restores` is about the one-run system) — for the current run the one-run
theorem applies as long as no restart has happened.
-/
namespace Humphrey.Pool
open PoolSpec

/-! ### `retire` and `start`-again preserve the invariant -/

/-- Starting the pool again leaves the old run in a state that satisfies every invariant of the one-run system
(with the owner gone and the sender dropped). -/
theorem inv_retire {c : Cfg} {s : State} (hi : Inv c s) (hl : s.life = .started ∨ s.life = .stopped) :
    Inv c (retire s) :=
  ⟨⟨hi.count.fifo, hi.count.deq, hi.count.sta, hi.count.sub, nofun⟩,
    ⟨.inl ⟨nofun, (hi.struct.started_shape hl).2⟩, hi.struct.lockOwner, hi.struct.lockHeld, hi.struct.recv,
      hi.struct.recAlive⟩,
    ⟨iff_of_true rfl rfl, nofun, iff_of_true rfl rfl⟩,
    ⟨hi.queue.wf, nofun, hi.queue.drained⟩⟩

theorem inv_startedFresh (c : Cfg) : Inv c (startedFresh c) :=
  Inv.of_reachable ((Reachable.init c).step (Step.start rfl rfl).to_step)

/-- The invariant of the several-runs system: every run satisfies the one-run invariant (for its own panicking set),
and every earlier run is in the dropped state (its sender is gone, nobody owns it). -/
structure MInv (c : MCfg) (m : MState) : Prop where
  cur : Inv (c.run m.past.length) m.cur
  past : ∀ g s, m.past[g]? = some s → Inv (c.run g) s ∧ s.life = .dropped

/-- The owner of a retired run is gone: no caller label fires at `done`. -/
theorem Step.callerAt_of_done {c : Cfg} {s s' : State} {l : Label} (st : Step c s l s') (hc : s.caller = .done) :
    l.callerAt = none := by
  cases hl : l.callerAt with
  | none => rfl
  | some pc => cases l <;> cases hl <;> cases (st.caller_of_callerAt rfl).symm.trans hc

/-- A step of a thread of the `g`-th earlier run is a step of the one-run system on that run's state. -/
theorem mstep_past {c : MCfg} {m m' : MState} {g : Nat} {l : Label} (h : mstep c m (.past g l) = some m') :
    ∃ s s', m.past[g]? = some s ∧ step (c.run g) s l = some s' ∧ m' = { m with past := m.past.set g s' } := by
  simp only [mstep] at h
  split at h
  · obtain ⟨s', hs, rfl⟩ := Option.map_eq_some_iff.mp h; exact ⟨_, s', ‹_›, hs, rfl⟩
  · cases h

theorem minv_step {c : MCfg} {m m' : MState} {l : MLabel} (hi : MInv c m) (h : mstep c m l = some m') : MInv c m' := by
  cases l with
  | cur l =>
    obtain ⟨s, hs, rfl⟩ := Option.map_eq_some_iff.mp h
    exact ⟨inv_step hi.cur hs, hi.past⟩
  | past g l =>
    obtain ⟨s, s', hg, hs, rfl⟩ := mstep_past h
    obtain ⟨his, hd⟩ := hi.past g s hg
    refine ⟨by simpa using hi.cur, fun g' t ht => ?_⟩
    rcases getElem?_set_cases ht with ⟨rfl, rfl⟩ | ⟨_, ht⟩
    · -- a retired run stays retired
      have st := Step.of_step hs
      exact ⟨inv_step his hs, (st.caller_frame (st.callerAt_of_done (his.caller.dropped.mp hd))).1.trans hd⟩
    · exact hi.past g' t ht
  | restart =>
    obtain ⟨hc, rfl⟩ := of_ite_some h
    refine ⟨by simpa using inv_startedFresh (c.run (m.past.length + 1)), fun g t ht => ?_⟩
    rcases getElem?_snoc_some ht with ht | ⟨rfl, rfl⟩
    · exact hi.past g t ht
    · exact ⟨inv_retire hi.cur hc.2, rfl⟩

theorem minv_mrun {c : MCfg} : ∀ (ls : List MLabel) (m m' : MState), MInv c m → mrun c m ls = some m' → MInv c m'
  | [], m, m', hm, h => by cases h; exact hm
  | l :: ls, m, m', hm, h => by
    simp only [mrun] at h
    split at h
    · exact minv_mrun ls _ m' (minv_step hm ‹_›) h
    · cases h

theorem MInv.of_reachable {c : MCfg} {m : MState} (h : MReachable c m) : MInv c m := by
  obtain ⟨ls, hls⟩ := h
  exact minv_mrun ls minit m ⟨Inv.of_reachable (Reachable.init _), fun _ _ h => nomatch h⟩ hls

/-- Every run of the pool value satisfies the one-run invariant (`m.runs[g]? = some s`: `s` is the state of the `g`-th
run, the last one being the current run). -/
theorem inv_of_run {c : MCfg} {m : MState} (h : MReachable c m) {g : Nat} {s : State} (hs : m.runs[g]? = some s) :
    Inv (c.run g) s := by
  have hi := MInv.of_reachable h
  rcases getElem?_snoc_some hs with hs | ⟨rfl, rfl⟩
  · exact (hi.past g s hs).1
  · exact hi.cur

/-! ### The property's clauses for every run, in every reachable state of the several-runs system -/

/-- However often the pool is started again: in every run each submitted task is in exactly one place and no task
body is entered twice. -/
theorem restart_exactly_once {c : MCfg} {m : MState} (h : MReachable c m) {g : Nat} {s : State}
    (hs : m.runs[g]? = some s) : ExactlyOnce (viewOf (c.run g) s) := exactly_once_of_inv (inv_of_run h hs).count

/-- … no run ever has more than N of its tasks running at once … -/
theorem restart_at_most_N {c : MCfg} {m : MState} (h : MReachable c m) {g : Nat} {s : State}
    (hs : m.runs[g]? = some s) : AtMostN (viewOf (c.run g) s) := at_most_N_of_inv (inv_of_run h hs).struct

/-- … and every run hands its tasks out in submission order. -/
theorem restart_fifo {c : MCfg} {m : MState} (h : MReachable c m) {g : Nat} {s : State}
    (hs : m.runs[g]? = some s) : Fifo (viewOf (c.run g) s) := (inv_of_run h hs).count.fifo

/-- `start` on a started or stopped pool never waits for anything: it is enabled whenever the caller is outside
`drop`, whatever the old run's threads are doing. This is how `mstep` models `ThreadPool::start`, which takes no lock
and joins nobody: the guard of `.restart` mentions neither a worker nor the recovery thread, and the statement is that
guard. -/
theorem restart_never_blocks (c : MCfg) (m : MState) (hc : m.cur.caller = .idle)
    (hl : m.cur.life = .started ∨ m.cur.life = .stopped) : (mstep c m .restart).isSome = true := by
  simp [mstep, hc, hl]

/-- Every step of a thread of an earlier run strictly decreases that run's `measure` and leaves every other run
alone: the threads left over from earlier runs can take only finitely many steps altogether. -/
theorem retired_step_decreases {c : MCfg} {m m' : MState} {g : Nat} {l : Label} (hm : MReachable c m)
    (h : mstep c m (.past g l) = some m') :
    ∃ s s', m.past[g]? = some s ∧ m'.past = m.past.set g s' ∧ m'.cur = m.cur ∧
      measure (c.run g) s' < measure (c.run g) s := by
  obtain ⟨s, s', hg, hs, rfl⟩ := mstep_past h
  refine ⟨s, s', hg, rfl, rfl, measure_decreases hs ?_⟩
  -- a retired run has no owner any more to submit anything
  obtain ⟨hi, hd⟩ := (MInv.of_reachable hm).past g s hg
  cases l <;> first | rfl | cases (Step.of_step hs).callerAt_of_done (hi.caller.dropped.mp hd)

/-- When no thread of an earlier run can move any more, every task submitted to that run has finished or panicked
and every one of its workers has left its loop — whether `stop` was called before the pool was started again or not. -/
theorem retired_all_done {c : MCfg} {m : MState} (hn : 0 < c.n) (hm : MReachable c m) {g : Nat} {s : State}
    (hg : m.past[g]? = some s) (hT : ∀ l, mstep c m (.past g l) = none) : AllDone (viewOf (c.run g) s) := by
  obtain ⟨hi, hd⟩ := (MInv.of_reachable hm).past g s hg
  refine all_done_of_inv (c := c.run g) hn hi ?_ hd
  intro l _
  have := hT l
  simp only [mstep, hg, Option.map_eq_none_iff] at this
  exact this

/-! ### `retire` against the one-run system (whose `Drop` path is tied to the code by trace acceptance) -/

/-- While the old run's recovery thread is idle, starting the pool again leaves the old run exactly where the four
steps of `Drop` would leave it — the part of `step` that real event logs exercise on every dropped pool. (`start`
differs from `Drop` only in not taking the `threads` mutex, i.e. in not waiting for `recov = waiting`.) -/
theorem retire_eq_drop {c : Cfg} {s : State} (hc : s.caller = .idle) (hl : s.life = .started ∨ s.life = .stopped)
    (hr : s.recov = .waiting) :
    run c s [.dropBegin, .dropDetachRecovery, .dropDetach, .dropSender] = some (retire s) := by
  rcases hl with hl | hl <;> simp [run, runWith, step, afterRecoveryHandle, retire, hc, hl, hr]

/-- Hence, in that case, the retired run is a reachable state of the one-run system and every one-run theorem of
`Props/C08.lean` applies to it as it stands; of `panic_recovery_restores` that is the clause `usable + exited =
workers` (the clause `usable = N` asks for `life = started`, and a retired run is `dropped`). -/
theorem retire_reachable {c : Cfg} {s : State} (h : Reachable c s) (hc : s.caller = .idle)
    (hl : s.life = .started ∨ s.life = .stopped) (hr : s.recov = .waiting) : Reachable c (retire s) :=
  h.run (retire_eq_drop hc hl hr)

/-! ### Non-vacuity -/

/-- N = 1: task 0 of the first run is still queued when the pool is started again without `stop`; the old worker
runs it, sees the disconnected channel and exits, next to the new run's worker running the new run's task 0. -/
def restartTrace : List MLabel :=
  [.cur .start, .cur (.submit 0), .restart, .cur (.submit 0),
   .past 0 (.reqLock 0), .past 0 (.lock 0), .past 0 (.recv 0), .past 0 (.unlock 0), .past 0 (.run 0),
   .cur (.reqLock 0), .cur (.lock 0), .cur (.recv 0), .cur (.unlock 0), .cur (.run 0),
   .past 0 (.finish 0), .cur (.finish 0),
   .past 0 (.reqLock 0), .past 0 (.lock 0), .past 0 (.recv 0), .past 0 (.unlock 0), .past 0 (.exit 0)]

example : (mrun { n := 1, panics := fun _ _ => false } minit restartTrace).map
    (fun m => (m.past.map (fun s => (s.finished, s.workers)), m.cur.finished, m.cur.life))
    = some ([([0], [.exited])], [0], .started) := by decide +kernel

/-- … and then nothing of the old run is enabled (the hypothesis of `retired_all_done` is satisfiable). -/
example : (mrun { n := 1, panics := fun _ _ => false } minit restartTrace).map
    (fun m => (candidates (m.past[0]?.getD init)).all (fun l => (mstep { n := 1, panics := fun _ _ => false } m (.past 0 l)).isNone))
    = some true := by decide +kernel

/-- `stop; start`: the stopped run's single `Shutdown` takes one worker out, the other one leaves on the disconnected
channel once `start` has replaced the sender. -/
example : (mrun { n := 2, panics := fun _ _ => false } minit
    [.cur .start, .cur .stop, .restart,
     .past 0 (.reqLock 0), .past 0 (.lock 0), .past 0 (.recv 0), .past 0 (.unlock 0), .past 0 (.exit 0),
     .past 0 (.reqLock 1), .past 0 (.lock 1), .past 0 (.recv 1), .past 0 (.unlock 1), .past 0 (.exit 1)]).map
    (fun m => m.past.map (fun s => s.workers)) = some [[.exited, .exited]] := by decide +kernel

/-- A task of the first run that is still running when the pool is started again and panics only afterwards: the
OLD run's recovery thread (detached, still alive) joins and respawns the worker, whose new incarnation finds the
disconnected channel and exits; the new run is not touched (its panicking set is its own: here empty). -/
example : (mrun { n := 1, panics := fun g k => g == 0 && k == 0 } minit
    [.cur .start, .cur (.submit 0), .cur (.reqLock 0), .cur (.lock 0), .cur (.recv 0), .cur (.unlock 0), .cur (.run 0),
     .restart, .cur (.submit 0),
     .past 0 (.panic 0), .past 0 (.markerSend 0), .past 0 (.recRecv 0), .past 0 .recJoin, .past 0 .recRespawn,
     .past 0 (.reqLock 0), .past 0 (.lock 0), .past 0 (.recv 0), .past 0 (.unlock 0), .past 0 (.exit 0),
     .cur (.reqLock 0), .cur (.lock 0), .cur (.recv 0), .cur (.unlock 0), .cur (.run 0), .cur (.finish 0)]).map
    (fun m => (m.past.map (fun s => (s.panicked, s.workers)), m.cur.finished, m.cur.workers))
    = some ([([0], [.exited])], [0], [.idle]) := by decide +kernel

/-- `start` is not `Drop`: with the old recovery thread in the middle of a respawn (holding the `threads` mutex),
`Drop`'s detach loop has to wait (`dropDetach` is not enabled) while starting the pool again goes through. -/
example : (mrun { n := 1, panics := fun _ k => k == 0 } minit
    [.cur .start, .cur (.submit 0), .cur (.reqLock 0), .cur (.lock 0), .cur (.recv 0), .cur (.unlock 0), .cur (.run 0),
     .cur (.panic 0), .cur (.markerSend 0), .cur (.recRecv 0)]).map
    (fun m => ((mstep { n := 1, panics := fun _ k => k == 0 } m .restart).isSome,
               (step { n := 1, panics := fun k => k == 0 } { m.cur with caller := .dropThreads } .dropDetach).isSome))
    = some (true, false) := by decide +kernel

end Humphrey.Pool
