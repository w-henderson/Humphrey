import HumphreyModel.Proofs.HttpMsgParse
import HumphreyModel.Proofs.HttpMsgChunked

/-!
# C07 — responses serialise to valid HTTP and parse back

Model: `Model/Response.lean`. Spec: `Spec/HttpMsg.lean` (independent strict recogniser `parseMsg`,
`checkSerialization`), `Spec/Status.lean`, `Spec/Chunked.lean` (RFC 9112 §7.1 rendering).
Helper lemmas: `Proofs/HttpMsg*.lean`. Well-formedness `Response.WF` (`Proofs/HttpMsgSer.lean`) is
exactly the property's exclusions: version non-empty without SP/CR/LF, a status the code knows,
header names that are non-empty tokens (automatic for the names of the header table,
`HName.wf_known`; for a custom name a condition on its stored lower-case key, `HName.wf_of_lower`;
whatever `HeaderType::from` builds from a token satisfies it, `HName.wf_ofName`), header values
without CR/LF and without leading SP/TAB.

The full statement

    theorem serialize_valid (r) (h : r.WF) :
      Spec.checkSerialization r.version r.status (r.headers.map fun h => (h.name.lower, h.value)) r.body
        (serializeResponse r) = none

is FALSE for every response with a non-empty body: `impl From<Response> for Vec<u8>` appends CRLF
after a non-empty body (recorded finding `crlf-after-body`; `serialize_crlf_pad_witness` in
`Props/C07.lean`, `serialize_valid_false` below). Proved: `serialize_valid_partial`.
-/
namespace Humphrey.Http
open Humphrey Humphrey.Bytes Humphrey.IO

/-- A well-formed response serialises to a message the independent recogniser accepts, with exactly
this version, code, reason phrase, these fields (sorted order) and — CRLF pad — this body. -/
theorem parseMsg_serialize_wf (r : Response) (h : r.WF) :
    Spec.parseMsg (serializeResponse r) =
      some ⟨r.version, statusCodeOut r.status, reasonPhrase r.status,
        r.headers.sorted.map (fun h => (asciiLower h.name.display, h.value)),
        if r.body = [] then [] else r.body ++ [13, 10]⟩ :=
  parseMsg_serialize r h

/-- **Serialised responses are valid HTTP messages** for the response they were made from (syntax,
version, status code, registered reason phrase, exactly the response's fields with same-named
fields in their original order, body) — except that a non-empty body is followed by a surplus
CRLF. -/
theorem serialize_valid_partial (r : Response) (h : r.WF) :
    Spec.checkSerialization r.version r.status (r.headers.map fun h => (h.name.lower, h.value)) r.body
      (serializeResponse r) ∈ [none, some "crlf-after-body"] := by
  rw [checkSerialization_serialize r h]
  by_cases hb : r.body = [] <;> simp [hb]

/-- With an empty body the message is valid outright. -/
theorem serialize_valid_empty_body (r : Response) (h : r.WF) (hb : r.body = []) :
    Spec.checkSerialization r.version r.status (r.headers.map fun h => (h.name.lower, h.value)) r.body
      (serializeResponse r) = none := by
  rw [checkSerialization_serialize r h]; simp [hb]

/-- The unrestricted statement fails on every well-formed response with a body. -/
theorem serialize_valid_false (r : Response) (h : r.WF) (hb : r.body ≠ []) :
    Spec.checkSerialization r.version r.status (r.headers.map fun h => (h.name.lower, h.value)) r.body
      (serializeResponse r) = some "crlf-after-body" := by
  rw [checkSerialization_serialize r h]; simp [hb]

/-- **`from_stream (Vec::from r)` returns `r`** (headers up to the stable sort `Headers::iter`
applies: for every name the same values in the same order), leaving unread exactly what followed
the message — plus the surplus CRLF when the body is non-empty. Hypotheses beyond `WF`
(`Response.ParseBack`): the lines are valid UTF-8 (always so in Rust, where the parts are
`String`s), no header value starts with Unicode white space (`trim_start`), the body length is a
`usize`, and the response is not itself marked `Transfer-Encoding: chunked` (such a response is
read back through the chunk decoder — a response carrying both that and Content-Length does NOT
round-trip, which is why the clause cannot be dropped). Framing: either the response carries
`Content-Length: <body length>`, or it is bodiless without Content-Length and then EITHER its status
never carries a body (1xx/204/304) OR nothing follows it on the stream — otherwise `from_stream`
(after the D20 repair) reads what follows as a close-delimited body; see
`parse_serialize_close_delimited`. -/
theorem parse_serialize (r : Response) (h : r.WF) (hp : r.ParseBack) (rest : Bytes)
    (hcl : r.headers.get hContentLength = some (natToBytes r.body.length) ∨
      (r.body = [] ∧ r.headers.get hContentLength = none ∧ (noBodyStatus r.status = true ∨ rest = []))) :
    ∃ r', parseResponse flatSource (serializeResponse r ++ rest) = .ok (r', pad r ++ rest) ∧
      r'.version = r.version ∧ r'.status = r.status ∧ r'.body = r.body ∧
      ∀ n, r'.headers.getAll n = r.headers.getAll n :=
  ⟨_, parseResponse_serialize r h hp rest hcl, rfl, rfl, rfl, fun n => getAll_sorted _ n⟩

/-- The same for every way of cutting the bytes into reads. -/
theorem parse_serialize_chunked (r : Response) (h : r.WF) (hp : r.ParseBack) (rest : Bytes)
    (hcl : r.headers.get hContentLength = some (natToBytes r.body.length) ∨
      (r.body = [] ∧ r.headers.get hContentLength = none ∧ (noBodyStatus r.status = true ∨ rest = [])))
    (reads : List Bytes) (hreads : reads.flatten = serializeResponse r ++ rest) :
    ∃ r' t, parseResponse readerSource ⟨[], reads⟩ = .ok (r', t) ∧ t.rest = pad r ++ rest ∧
      r'.version = r.version ∧ r'.status = r.status ∧ r'.body = r.body ∧
      ∀ n, r'.headers.getAll n = r.headers.getAll n := by
  obtain ⟨t, e, ht⟩ := parseResponse_any_reads reads _ _ (hreads ▸ parseResponse_serialize r h hp rest hcl)
  exact ⟨_, t, e, ht, rfl, rfl, rfl, fun n => getAll_sorted _ n⟩

/-- General form: whatever follows the message on the stream is part of the close-delimited body. -/
theorem parse_serialize_close_delimited_rest (r : Response) (h : r.WF) (hp : r.ParseBack) (rest : Bytes)
    (hcl : r.headers.get hContentLength = none) (hs : noBodyStatus r.status = false) :
    parseResponse flatSource (serializeResponse r ++ rest) =
      .ok (⟨r.version, r.status, r.headers.sorted, bodyPart r ++ rest⟩, []) := by
  rw [parseResponse_serialize_upto_body r h hp rest]
  have := readRest_flat ((bodyPart r ++ rest).length + 1) (bodyPart r ++ rest) [] (by omega)
  simp only [flatSource, List.length_append, List.nil_append] at this
  simp [parseBody, sorted_get, hp.not_chunked, hcl, hs, flatSource, this]

/-- **Close-delimited read-back**: a response without Content-Length (and not chunked) whose status
may carry a body is read back up to end of stream: the body returned is the body sent *followed by
the serialiser's CRLF pad* (and by anything else the peer sent before closing). So such a response
round-trips exactly only when its body is empty and nothing follows. -/
theorem parse_serialize_close_delimited (r : Response) (h : r.WF) (hp : r.ParseBack)
    (hcl : r.headers.get hContentLength = none) (hs : noBodyStatus r.status = false) :
    ∃ r', parseResponse flatSource (serializeResponse r) = .ok (r', []) ∧
      r'.version = r.version ∧ r'.status = r.status ∧
      r'.body = r.body ++ (if r.body = [] then [] else crlf) ∧
      ∀ n, r'.headers.getAll n = r.headers.getAll n := by
  have := parse_serialize_close_delimited_rest r h hp [] hcl hs
  rw [List.append_nil] at this
  refine ⟨_, this, rfl, rfl, ?_, fun n => getAll_sorted _ n⟩
  by_cases hb : r.body = [] <;> simp [bodyPart, hb, crlf]

/-- **A chunked message decodes to its concatenated data**: for every status line the code
accepts, `Transfer-Encoding: chunked` at any position among any other header fields (none of them
named Transfer-Encoding), any division of the body into non-empty chunks and any spelling of the sizes
(`Spec.HexSpells`: upper or lower case, leading zeros), `from_stream` returns the version, the status, the other headers in wire
order followed by `Content-Length: <total>`, and the concatenation of the chunk data, and consumes
the message exactly. (Induction on the list of chunks: `parseChunks_render`.) The fields need not
exclude Content-Length: the chunked branch ignores it. -/
theorem chunked_decode (version phrase : Bytes) (code : Nat) (hs₁ hs₂ : Headers)
    (parts : List (Bytes × Bytes)) (last : Bytes)
    (hver : ∀ b ∈ version, b ≠ 32 ∧ b ≠ 10) (hph : ∀ b ∈ phrase, b ≠ 10) (hk : statusKnown code = true)
    (hu : utf8Valid (version ++ 32 :: (natToBytes code ++ 32 :: phrase) ++ [13, 10]) = true)
    (hw : ∀ h ∈ hs₁ ++ hs₂, h.WF ∧ utf8Valid (headerLine h ++ [13, 10]) = true ∧
      wsPrefixLen h.value = 0 ∧ h.name ≠ hTransferEncoding)
    (hparts : ∀ p ∈ parts, Spec.HexSpells p.1 p.2.length ∧ p.2 ≠ [] ∧ p.2.length < 18446744073709551616)
    (hlast : Spec.HexSpells last 0) :
    parseResponse flatSource
      (Spec.renderChunked version (natToBytes code) phrase
        ((hs₁ ++ teHeader :: hs₂).map headerLine) parts last) =
      .ok (⟨version, code,
          hs₁ ++ hs₂ ++ [⟨hContentLength, natToBytes (parts.map (·.2)).flatten.length⟩],
          (parts.map (·.2)).flatten⟩, []) := by
  have hall : ∀ h ∈ hs₁ ++ teHeader :: hs₂,
      h.WF ∧ utf8Valid (headerLine h ++ [13, 10]) = true ∧ wsPrefixLen h.value = 0 := by
    intro h hh
    simp only [List.mem_append, List.mem_cons] at hh
    rcases hh with hh | rfl | hh
    · have := hw h (by simp [hh]); exact ⟨this.1, this.2.1, this.2.2.1⟩
    · exact te_header_ok
    · have := hw h (by simp [hh]); exact ⟨this.1, this.2.1, this.2.2.1⟩
  have hline : ∀ b ∈ version ++ 32 :: (natToBytes code ++ 32 :: phrase), b ≠ 10 :=
    forall_mem_statusLine _ _ _ (fun b hb => (hver b hb).2) hph (by decide)
      (fun b hb => (isDigit_facts b hb).2.2.2.1)
  have hte : (hs₁ ++ teHeader :: hs₂).get hTransferEncoding = some chunkedValue :=
    get_append_cons hs₁ hs₂ teHeader (fun y hy => (hw y (by simp [hy])).2.2.2)
  have hrem : (hs₁ ++ teHeader :: hs₂).remove hTransferEncoding = hs₁ ++ hs₂ :=
    remove_append_cons hs₁ hs₂ teHeader (fun y hy => (hw y hy).2.2.2)
  have hb := parseBody_chunked code _ parts last [] hte hparts hlast
  rw [List.append_nil, hrem] at hb
  simp only [Spec.renderChunked, List.flatMap_map]
  rw [parseResponse_head _ version code _ _
    (parseStatusLine_of_parts version phrase code (fun b hb => (hver b hb).1) hk hu) hline
    (fun h hm => (hall h hm).1) (fun h hm => (hall h hm).2.1) (fun h hm => (hall h hm).2.2), hb]

/-- The same for every way of cutting the message into reads. -/
theorem chunked_decode_any_reads (version phrase : Bytes) (code : Nat) (hs₁ hs₂ : Headers)
    (parts : List (Bytes × Bytes)) (last : Bytes)
    (hver : ∀ b ∈ version, b ≠ 32 ∧ b ≠ 10) (hph : ∀ b ∈ phrase, b ≠ 10) (hk : statusKnown code = true)
    (hu : utf8Valid (version ++ 32 :: (natToBytes code ++ 32 :: phrase) ++ [13, 10]) = true)
    (hw : ∀ h ∈ hs₁ ++ hs₂, h.WF ∧ utf8Valid (headerLine h ++ [13, 10]) = true ∧
      wsPrefixLen h.value = 0 ∧ h.name ≠ hTransferEncoding)
    (hparts : ∀ p ∈ parts, Spec.HexSpells p.1 p.2.length ∧ p.2 ≠ [] ∧ p.2.length < 18446744073709551616)
    (hlast : Spec.HexSpells last 0) (reads : List Bytes)
    (hreads : reads.flatten = Spec.renderChunked version (natToBytes code) phrase
        ((hs₁ ++ teHeader :: hs₂).map headerLine) parts last) :
    ∃ t, parseResponse readerSource ⟨[], reads⟩ =
      .ok (⟨version, code,
          hs₁ ++ hs₂ ++ [⟨hContentLength, natToBytes (parts.map (·.2)).flatten.length⟩],
          (parts.map (·.2)).flatten⟩, t) ∧ t.rest = [] :=
  parseResponse_any_reads reads _ _
    (hreads ▸ chunked_decode version phrase code hs₁ hs₂ parts last hver hph hk hu hw hparts hlast)

/-! ## Non-vacuity -/

/-- `HTTP/1.1 200 OK`, `Content-Length: 1`, a custom header `x-a: v`, body `x`. -/
def sampleResponse : Response :=
  ⟨[72, 84, 84, 80, 47, 49, 46, 49], 200, [⟨hContentLength, [49]⟩, ⟨⟨[120, 45, 97]⟩, [118]⟩], [120]⟩

theorem sampleResponse_wf : sampleResponse.WF := by
  refine ⟨by decide, by decide, by decide, ?_⟩
  intro h hh
  simp only [sampleResponse, List.mem_cons, List.not_mem_nil, or_false] at hh
  rcases hh with rfl | rfl
  · exact ⟨HName.wf_known _ (by decide), by decide, by intro b t e; cases e; decide⟩
  · exact ⟨HName.wf_of_lower _ (by decide) (by decide) (by decide), by decide,
      by intro b t e; cases e; decide⟩

theorem sampleResponse_parseBack : sampleResponse.ParseBack := by
  refine ⟨by decide, ?_, ?_, by decide, by decide⟩
  · intro h hh
    simp only [sampleResponse, List.mem_cons, List.not_mem_nil, or_false] at hh
    rcases hh with rfl | rfl <;> decide
  · intro h hh
    simp only [sampleResponse, List.mem_cons, List.not_mem_nil, or_false] at hh
    rcases hh with rfl | rfl <;> decide

example : Spec.checkSerialization sampleResponse.version sampleResponse.status
    (sampleResponse.headers.map fun h => (h.name.lower, h.value)) sampleResponse.body
    (serializeResponse sampleResponse) = some "crlf-after-body" :=
  serialize_valid_false _ sampleResponse_wf (by decide)

example : ∃ r', parseResponse flatSource (serializeResponse sampleResponse ++ []) = .ok (r', [13, 10]) ∧
    r'.body = [120] := by
  obtain ⟨r', h1, _, _, h4, _⟩ :=
    parse_serialize sampleResponse sampleResponse_wf sampleResponse_parseBack [] (.inl (by decide))
  exact ⟨r', h1, h4⟩

/-- A concrete chunked message: `HTTP/1.1 200 OK`, chunks `a` (size spelled `01`), ten bytes (size
spelled `a`), ten bytes (size spelled `A`), last chunk spelled `00`. -/
example : parseResponse flatSource
    (Spec.renderChunked [72, 84, 84, 80, 47, 49, 46, 49] (natToBytes 200) [79, 75] ([teHeader].map headerLine)
      [([48, 49], [97]), ([97], [48, 49, 50, 51, 52, 53, 54, 55, 56, 57]),
       ([65], [48, 49, 50, 51, 52, 53, 54, 55, 56, 57])] [48, 48]) =
    .ok (⟨[72, 84, 84, 80, 47, 49, 46, 49], 200, [⟨hContentLength, natToBytes 21⟩],
      [97, 48, 49, 50, 51, 52, 53, 54, 55, 56, 57, 48, 49, 50, 51, 52, 53, 54, 55, 56, 57]⟩, []) := by
  have := chunked_decode [72, 84, 84, 80, 47, 49, 46, 49] [79, 75] 200 [] []
    [([48, 49], [97]), ([97], [48, 49, 50, 51, 52, 53, 54, 55, 56, 57]),
     ([65], [48, 49, 50, 51, 52, 53, 54, 55, 56, 57])] [48, 48]
    (by decide) (by decide) (by decide) (by decide) (by simp)
    (by
      intro p hp
      simp only [List.mem_cons, List.not_mem_nil, or_false] at hp
      rcases hp with rfl | rfl | rfl <;> exact ⟨⟨by decide, by decide⟩, by decide, by decide⟩)
    ⟨by decide, by decide⟩
  simpa using this

end Humphrey.Http
