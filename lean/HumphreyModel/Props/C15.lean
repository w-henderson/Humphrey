import HumphreyModel.Proofs.ConfReject
import HumphreyModel.Proofs.ConfTotal
import HumphreyModel.Proofs.ConfCfg

/-!
# C15 — configuration files load into exactly what they describe, or are rejected with a line

Model: `Model/Conf.lean` (`parse_conf`, `parse_section`, `parse_size`, `include`, `flatten`, typed
getters, `Config::from_tree`, after the C15 repairs). Spec: `Spec/Conf.lean` (`renderTree`,
`Layout`, `WFTree`). Lemmas: `Proofs/Conf*.lean`. The configuration level (`load_render` and the
rejection of each validated key on whole configurations) is `Props/C15Config.lean`.
-/
namespace Humphrey.Conf

/-! ## tree level -/

/-- **Round trip, on the lines of the file.** Every well-formed tree, written with any layout
(filler lines, indentation, blanks, comments, unit spelling), is read back as itself. -/
theorem parse_tree_roundtrip_lines (fs : FS) (file : Str) (lay : Layout) (hl : WFLayout lay)
    (cs : List Node) (hw : WFTree (.section "server".toList cs)) :
    parseConfLines fs (renderLines lay cs) file = .ok (.section "server".toList cs) := by
  rw [renderLines_eq, List.append_assoc, parseConfLines_server fs file (hl []).1,
    go_renderNodes _ file 0 lay hl cs hw.2.1 [] 0 _ _ [] [] (by simpa using hw.2.2),
    go_close_done_line _ file 0 (hl []).2]
  simp [finishServer]

/-- The round trip on the text, given that no rendered line contains `\n` or ends in `\r`
(`lineClean`): then `str::lines` cuts the text back into the rendered lines (`splitLines_closed`).
`clean_renderLines` (`Proofs/ConfClean.lean`) shows that `WFTree`/`WFLayout` imply the hypothesis;
`parse_tree_roundtrip` in `Props/C15Config.lean` is the statement without it. -/
theorem parse_tree_roundtrip_partial (fs : FS) (file : Str) (lay : Layout) (hl : WFLayout lay)
    (cs : List Node) (hw : WFTree (.section "server".toList cs))
    (hclean : ∀ l ∈ renderLines lay cs, lineClean l) :
    parseConf fs (renderTree (.section "server".toList cs) lay) file = .ok (.section "server".toList cs) := by
  unfold parseConf renderTree
  rw [show splitLines (joinLines (renderLines lay cs)) = renderLines lay cs from
    splitLines_closed (lay.close []) hclean]
  exact parse_tree_roundtrip_lines fs file lay hl cs hw

/-- **Layout independence**, on the lines of the file: the lines of one tree under two layouts
are parsed to the same result. -/
theorem layout_irrelevant (fs : FS) (file : Str) (lay₁ lay₂ : Layout) (h₁ : WFLayout lay₁)
    (h₂ : WFLayout lay₂) (cs : List Node) (hw : WFTree (.section "server".toList cs)) :
    parseConfLines fs (renderLines lay₁ cs) file = parseConfLines fs (renderLines lay₂ cs) file := by
  rw [parse_tree_roundtrip_lines fs file lay₁ h₁ cs hw, parse_tree_roundtrip_lines fs file lay₂ h₂ cs hw]

/-- `parse_size` is exact: `n` followed by a unit letter is `n` times the unit, whenever that
fits in an `i64`. -/
theorem parse_size_correct (n m : Nat) (u : Char) (hu : unitFactor u = some m) (h : n * m < 2 ^ 63) :
    parseSize (showNat n ++ [u]) = some ((n * m : Nat) : Int) :=
  parseSize_unit hu h

/-- … and the same text is typed as the number node holding the byte count. -/
theorem size_value_typed (key : Str) (n m : Nat) (u : Char) (hu : unitFactor u = some m)
    (h : n * m < 2 ^ 63) : typeValue key (showNat n ++ [u]) = .ok (.number key (showNat (n * m))) :=
  typeValue_unit hu h

/-- A size that does not fit in an `i64` is an error (checked multiplication), not a wrap. -/
theorem parse_size_overflow_rejected (n m : Nat) (u : Char) (hu : unitFactor u = some m)
    (hn : n < 2 ^ 63) (h : 2 ^ 63 ≤ n * m) : parseSize (showNat n ++ [u]) = none := by
  have hn' : (n : Int) ≤ i64Max := by simp only [i64Max]; omega
  have hb : ¬ (i64Min ≤ ((n * m : Nat) : Int) ∧ ((n * m : Nat) : Int) ≤ i64Max) := by
    simp only [i64Min, i64Max]; omega
  rw [parseSize_showNat_unit hu hn', checkedMul, ← Int.natCast_mul]
  exact if_neg hb

/-- Anything ending in a character that is neither a digit nor one of `K M G k m g` is not a
size (`hud` follows from `hd`: `to_ascii_uppercase` moves only `a`–`z`, onto `A`–`Z`). -/
theorem parse_size_rejects_unknown_unit (a : Str) (u : Char) (hd : digitVal u = none)
    (hu : unitMult (toAsciiUpper u) = none) (hud : digitVal (toAsciiUpper u) = none) :
    parseSize (a ++ [u]) = none :=
  parseSize_bad_unit a hd hu hud

/-! ### rejection, with the reported (file, line)

`AbsorbsAt fs file p depth`: `p` is the beginning of a file up to a point inside the `server`
section (`absorbs_server`, `absorbs_nodes`, `absorbs_open` in `Proofs/ConfReject.lean` build
such prefixes from the rendering of well-formed nodes and opened sections). The faulty line is
line `p.length + 1` of the file, and that is the line reported. -/

/-- Fault class "missing value": a key alone on its line. -/
theorem missing_value_rejected_at_line (fs : FS) (file : Str) (p : List Str) (depth : Nat)
    (hp : AbsorbsAt fs file p depth) (d : Deco) (hd : d.ok) (key : Str) (hk : okKey key)
    (hlast : key.getLast? ≠ some '{') (hbr : key ≠ ['}']) (rest : List Str) :
    parseConfLines fs (p ++ decoLine d key :: rest) file = .err ⟨.syntaxErr, file, p.length + 1⟩ := by
  have hc := cleanUp_decoLine hd (okKey_content hk).noHash (okKey_content hk).tight
  exact reject_at_line hp rest (go_missing_value _ file 0 hc hk.1 (okKey_no_space hk) hlast hbr rest)

/-- Fault class "unterminated quote": the value opens a quotation mark and never closes it. -/
theorem unterminated_quote_rejected_at_line (fs : FS) (file : Str) (p : List Str) (depth : Nat)
    (hp : AbsorbsAt fs file p depth) (d : Deco) (hd : d.ok) (key v : Str) (hk : okKey key)
    (hq : ∀ c ∈ v, c ≠ '"' ∧ c ≠ '#') (hv : v = [] ∨ tight v) (hlast : v.getLast? ≠ some '{')
    (rest : List Str) :
    parseConfLines fs (p ++ decoLine d (kvContent d key ('"' :: v)) :: rest) file =
      .err ⟨.badValue, file, p.length + 1⟩ := by
  obtain ⟨hvt, hvl⟩ : tight ('"' :: v) ∧ ('"' :: v).getLast? ≠ some '{' := by
    rcases hv with rfl | hv
    · exact ⟨⟨⟨'"', rfl, by decide⟩, ⟨'"', rfl, by decide⟩⟩, by decide⟩
    · exact ⟨tight_append (a := ['"']) ⟨⟨'"', rfl, by decide⟩, ⟨'"', rfl, by decide⟩⟩ hv [],
        by rw [← List.singleton_append, getLast?_append_ne_nil (tight_ne_nil hv)]; exact hlast⟩
  have hno : ∀ x ∈ '"' :: v, x ≠ '#' := by
    intro x hx
    rcases List.mem_cons.mp hx with rfl | hx
    · decide
    · exact (hq x hx).2
  exact bad_value_rejected_at_line hp hd hk hvt hvl hno
    (typeValue_unterminated key v (fun c hc => (hq c hc).1)) rest

/-- Fault class "unknown unit": a number followed by one character that can stand in a value and is
neither a digit nor one of `K M G k m g`. -/
theorem unknown_unit_rejected_at_line (fs : FS) (file : Str) (p : List Str) (depth : Nat)
    (hp : AbsorbsAt fs file p depth) (d : Deco) (hd : d.ok) (key : Str) (hk : okKey key) (n : Nat)
    (u : Char) (hdg : digitVal u = none) (hu : unitMult (toAsciiUpper u) = none)
    (hud : digitVal (toAsciiUpper u) = none) (hws : isWhitespace u = false) (hb : u ≠ '{')
    (hh : u ≠ '#') (rest : List Str) :
    parseConfLines fs (p ++ decoLine d (kvContent d key (showNat n ++ [u])) :: rest) file =
      .err ⟨.badValue, file, p.length + 1⟩ := by
  have hv := valueOk_showNat_snoc n hws hb hh
  exact bad_value_rejected_at_line hp hd hk hv.tight hv.last hv.noHash
    (typeValue_unknown_unit key n hdg hu hud) rest

/-- Fault class "missing close brace": the file ends inside the `server` section (at any
nesting depth); the error names the line after the last one. -/
theorem missing_close_brace_rejected (fs : FS) (file : Str) (p : List Str) (depth : Nat)
    (hp : AbsorbsAt fs file p depth) :
    parseConfLines fs p file = .err ⟨.eof, file, p.length + 1⟩ := by
  obtain ⟨stack, cur, _, hp⟩ := hp
  have := hp []
  rw [List.append_nil] at this
  rw [this]; rfl

/-- **No panics**: for every text, file name and file system the parser model ends in `ok` or
`err` (after the repairs: character-boundary slice and checked multiplication in `parse_size`,
quoted host names of at least two bytes, bounded nesting). Also the configuration half of C03. -/
theorem conf_never_panics (fs : FS) (conf filename : Str) : parseConf fs conf filename ≠ .panic := by
  unfold parseConf parseConfLines
  split
  · simp
  · split
    · simp
    · simp
    · rename_i h
      exact absurd h (goLines_ne_panic _ (fun p f l d => parseFile_ne_panic fs _ p f l d) _ _ _ _ _ _)


/-! ## configuration level (`Config::from_tree`)

What is proved here about `from_tree` is the "never accepted with a different meaning" direction
for the validated keys, and the route rules, on an arbitrary tree. The statements on rendered
configurations (`load_render`, `load_config_roundtrip`, with the generating model `Cfg` of
`Spec/ConfModel.lean`) are in `Props/C15Config.lean`. -/

/-- Bad enumeration words and bad numbers, as acceptance conditions: whenever `from_tree`
accepts, the blacklist mode is `block` or `forbidden`, the log level is one of the four levels,
`port` is a `u16`, `threads` a `usize ≥ 1`, cache size and time are `usize` (each key absent =
its default), and hosts and routes are those of the tree in file order. Any other value of one
of these keys is therefore rejected. -/
theorem bad_enum_or_number_never_accepted_partial (fs : FS) (tree : Node) (c : Config)
    (h : fromTree fs tree = .ok c) :
    (getOptional (flattenNode [] tree []) (k "server.blacklist.mode") (k "block") = k "block" ∨
      getOptional (flattenNode [] tree []) (k "server.blacklist.mode") (k "block") = k "forbidden") ∧
    getOptionalParsed (flattenNode [] tree []) (k "server.port") 80 (parseUnsigned 16) CfgErr.port = .ok c.port ∧
    getOptionalParsed (flattenNode [] tree []) (k "server.threads") 32 (parseUnsigned 64) CfgErr.threads = .ok c.threads ∧
    1 ≤ c.threads ∧
    getOptionalParsed (flattenNode [] tree []) (k "server.log.level") LogLevel.warn parseLogLevel CfgErr.logLevel = .ok c.logLevel ∧
    getOptionalParsed (flattenNode [] tree []) (k "server.cache.size") 0 (parseUnsigned 64) CfgErr.cacheSize = .ok c.cacheSize ∧
    getOptionalParsed (flattenNode [] tree []) (k "server.cache.time") 0 (parseUnsigned 64) CfgErr.cacheTime = .ok c.cacheTime ∧
    parseRoutes tree.sectionChildren = .ok c.defaultHost.routes ∧
    parseHosts tree.sectionChildren = .ok c.hosts := by
  revert h
  fun_cases fromTree fs tree
  -- the last case is the one where every stage succeeded; its hypotheses are the stages
  case case23 hport _ hthreads _ _ _ _ hge _ _ _ _ hmode _ hlevel _ _ _ _ hsize _ htime _ hroutes _ hhosts =>
    intro h
    cases h
    refine ⟨?_, hport, hthreads, Nat.not_lt.mp hge, hlevel, hsize, htime, hroutes, hhosts⟩
    by_cases h1 : getOptional (flattenNode [] tree []) (k "server.blacklist.mode") (k "block") = k "block"
    · exact Or.inl h1
    · by_cases h2 : getOptional (flattenNode [] tree []) (k "server.blacklist.mode") (k "block") = k "forbidden"
      · exact Or.inr h2
      · rw [if_neg h1, if_neg h2] at hmode; cases hmode
  all_goals nofun

/-- A typed key that is present parses, or the configuration is rejected (`get_optional_parsed`). -/
theorem typed_key_accepted_iff {α ε : Type} (m : Map) (key : Str) (dflt : α) (parse : Str → Option α)
    (e : ε) (a : α) (h : getOptionalParsed m key dflt parse e = .ok a) :
    (m.get key = none ∧ a = dflt) ∨ ∃ n s, m.get key = some n ∧ n.scalar = some s ∧ parse s = some a := by
  revert h
  fun_cases getOptionalParsed m key dflt parse e
  case case1 hn => exact fun h => Or.inl ⟨hn, (Res.ok.inj h).symm⟩
  case case2 n hn a' ha =>
    intro h
    cases h
    cases hs : n.scalar with
    | none => rw [hs] at ha; cases ha
    | some s => rw [hs] at ha; exact Or.inr ⟨n, s, hn, hs, ha⟩
  case case3 => nofun

/-- `route_without_target_rejected` (route level): a route section with none of `file`,
`directory`, `proxy`, `redirect`, `websocket` is an error, whatever its patterns. -/
theorem route_without_target_rejected_partial (wild : Str) (conf : Map)
    (h1 : conf.get "file".toList = none) (h2 : conf.get "directory".toList = none)
    (h3 : conf.get "proxy".toList = none) (h4 : conf.get "redirect".toList = none)
    (h5 : conf.get "websocket".toList = none) : parseRoute wild conf = .err .routeTarget :=
  parseRoute_err fun w => by
    unfold parseRouteOne
    simp only [h1, h2, h3, h4, h5, Option.isSome_none, Bool.false_eq_true, if_false, Bool.not_false, if_true]

/-- `bad_balancer_mode_rejected` at route level: a proxy route whose `load_balancer_mode` is neither
`round-robin` nor `random` is an error, whatever its patterns. -/
theorem bad_balancer_mode_rejected_partial (wild : Str) (conf : Map) (n : Node) (t : Str)
    (h1 : conf.get "file".toList = none) (h2 : conf.get "directory".toList = none)
    (h3 : conf.get "proxy".toList = some n) (ht : n.getString = some t)
    (hm1 : getOptional conf "load_balancer_mode".toList "round-robin".toList ≠ "round-robin".toList)
    (hm2 : getOptional conf "load_balancer_mode".toList "round-robin".toList ≠ "random".toList) :
    parseRoute wild conf = .err .lbMode :=
  parseRoute_err fun w => by
    unfold parseRouteOne
    simp only [h1, h2, h3, getOwned, ht, hm1, hm2, Option.isSome_none, Option.isSome_some, Bool.false_eq_true,
      if_false, if_true, Option.bind_some]

/-! ### non-vacuity -/

def plainLayout : Layout := { line := fun _ => {}, close := fun _ => {} }

theorem Deco.ok_default : ({} : Deco).ok := by simp [Deco.ok]

theorem plainLayout_ok : WFLayout plainLayout := fun _ => ⟨Deco.ok_default, Deco.ok_default⟩

example : AbsorbsAt (fun _ => .missing) "f".toList (mkLines ({} : Deco) serverLine) 0 :=
  absorbs_server _ _ Deco.ok_default

example : parseSize "12K".toList = some 12288 := by rw [String.toList_ofList]; decide
example : parseSize "12X".toList = none := by rw [String.toList_ofList]; decide
example : unitFactor 'm' = some (1024 * 1024) := by decide

end Humphrey.Conf
