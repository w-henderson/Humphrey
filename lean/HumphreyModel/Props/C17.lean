import HumphreyModel.Proofs.AuthSim

/-!
# C17 — passwords and session tokens authenticate exactly their owner, only while valid

Property theorems, with the definitions only their statements need (`initDb`, `initSpec`, `outToks`,
`Spec.Eff.toConfig`) and a demonstration history. Model: `Model/Auth.lean` (`database.rs`, `session.rs`,
`user.rs`, `lib.rs`, `app.rs::with_auth_route` of humphrey-auth, with the repaired `refresh_session`, D24).
Spec: `Spec/Auth.lean` (token map `Token → Option (Uid × Expiry)`, password map `Uid → Option Password`).

All theorems hold for every type of uids, tokens, passwords, salts, peppers and hashes, every
`HashScheme` satisfying the contract `Lawful`, every configuration, every database size, every operation
sequence of any length and every clock. `Rel hs cfg db a` ("`db` represents `a`") holds of the empty
database and of every pre-populated one (`rel_init`) and is preserved by every operation
(`refinement_step`, `refinement_run`), so the corollaries stated for related states hold in every reachable
state.

The refinement is stated as a forward simulation `Rel`, not as a function `abs`, for one reason only: the
password a stored hash was made from cannot be computed from the hash. The token half *is* a function:
`refinement_step_tokens` is literally `absSess (step db op now).1 = (Spec.step (…) op now).1.sess`.
-/
namespace Humphrey.Auth
set_option linter.unusedSectionVars false -- the sections' `DecidableEq` instances are not needed by every lemma

section
variable {U T H P S Pep : Type} [DecidableEq U] [DecidableEq T] [DecidableEq P]
variable {hs : HashScheme P S Pep H} {cfg : Config Pep} {db : Db U T H} {a : Spec.State U T P}

/-! ## Refinement -/

/-- A database of session-less users `(uid, password, salt)` hashed with the configured pepper … -/
def initDb (hs : HashScheme P S Pep H) (cfg : Config Pep) (init : List (U × P × S)) : Db U T H :=
  init.map (fun x => { uid := x.1, pwHash := hs.hash x.2.1 x.2.2 cfg.pepper, session := none })

/-- … and the abstract state it stands for: those users with those passwords, no tokens. -/
def initSpec (init : List (U × P × S)) : Spec.State U T P :=
  { pw := fun u => (init.find? (fun x => decide (x.1 = u))).map (·.2.1), sess := fun _ => none,
    drawnUids := init.map (·.1), drawnToks := [] }

/-- Every pre-populated database with pairwise distinct uids (any number of users) represents its
abstract state — the starting point of the pool-based correspondence runs. -/
theorem rel_init (hs : HashScheme P S Pep H) (cfg : Config Pep) (init : List (U × P × S))
    (hd : (init.map (·.1)).Pairwise (· ≠ ·)) :
    Rel hs cfg (initDb hs cfg init : Db U T H) (initSpec init : Spec.State U T P) := by
  have hget : ∀ u, getUserByUid (initDb hs cfg init : Db U T H) u =
      (init.find? (fun x => decide (x.1 = u))).map
        (fun x => { uid := x.1, pwHash := hs.hash x.2.1 x.2.2 cfg.pepper, session := none }) := by
    intro u
    unfold getUserByUid initDb
    rw [List.find?_map]
    rfl
  refine {
    uids := ?uids
    sess := fun u t e => ?sess
    pwNone := fun u h => ?pwNone
    pwSome := fun u p h => ?pwSome
    drawnT := fun t u e h => nomatch h
    drawnU := fun u p h => ?drawnU }
  case uids =>
    rw [uidsDistinct_iff]
    simpa [initDb, List.map_map, Function.comp_def] using hd
  case sess =>
    have : sessOf (initDb hs cfg init : Db U T H) u = none := by
      unfold sessOf
      rw [hget u]
      cases init.find? (fun x => decide (x.1 = u)) <;> rfl
    rw [this]
    exact ⟨nofun, nofun⟩
  case pwNone =>
    rw [hget u, Option.map_eq_none_iff.mp h]
    rfl
  case pwSome =>
    obtain ⟨x, hx, hp⟩ := Option.map_eq_some_iff.mp h
    exact ⟨_, x.2.2, by rw [hget u, hx]; rfl, by rw [← hp]⟩
  case drawnU =>
    obtain ⟨x, hx, _⟩ := Option.map_eq_some_iff.mp h
    exact List.mem_map.mpr ⟨x, List.mem_of_find?_eq_some hx, by simpa using List.find?_some hx⟩

/-- The empty database represents the empty maps. -/
theorem rel_empty (hs : HashScheme P S Pep H) (cfg : Config Pep) :
    Rel hs cfg ([] : Db U T H) (Spec.empty : Spec.State U T P) :=
  rel_init hs cfg [] List.Pairwise.nil

/-- **Refinement, one step.** From related states, every `AuthProvider` operation (and a request on the
authenticated route) returns what the abstract specification returns and leads to related states.
`FreshOp`: a token drawn by the operation has not been drawn before (needed by the two session-creating
calls only). -/
theorem refinement_step (hl : hs.Lawful) (hr : Rel hs cfg db a) (op : Op U T P S) (now : Nat)
    (hf : Spec.FreshOp a.drawnUids a.drawnToks op) :
    Rel hs cfg (step hs cfg db op now).1
      (Spec.step cfg.defaultLifetime cfg.defaultRefreshLifetime a op now).1 ∧
    (step hs cfg db op now).2 = (Spec.step cfg.defaultLifetime cfg.defaultRefreshLifetime a op now).2 := by
  cases op with
  | createUser p s u => exact sim_createUser hr _ _ p s u now
  | removeUser u => exact sim_removeUser hr _ _ u now
  | verify u p => exact ⟨hr, congrArg Out.bool (sim_verify hl hr u p)⟩
  | userExists u => exact ⟨hr, congrArg Out.bool (sim_exists hr u)⟩
  | createSession u t => exact sim_issue hr u _ t now hf
  | createSessionWithLifetime u l t => exact sim_issue hr u l t now hf
  | refreshSession t => exact sim_refresh hr _ t now
  | invalidateSession t => exact sim_invalidateSession hr _ _ t now
  | invalidateUserSession u => exact sim_invalidateUserSession hr _ _ u now
  | getUidByToken t => exact ⟨hr, sim_getUidByToken hr t now⟩
  | authRoute c => exact ⟨hr, sim_authRoute hr c now⟩

/-- The token half of the refinement as an equation between functions:
`abs (step s op now) = specStep (abs s) op now` on the token map. -/
theorem refinement_step_tokens (hl : hs.Lawful) (hr : Rel hs cfg db a) (op : Op U T P S) (now : Nat)
    (hf : Spec.FreshOp a.drawnUids a.drawnToks op) :
    absSess (step hs cfg db op now).1 =
      (Spec.step cfg.defaultLifetime cfg.defaultRefreshLifetime a op now).1.sess :=
  funext fun t => (refinement_step hl hr op now hf).1.absSess_eq t

/-- **Refinement, whole histories** (any length, any clock values): the model's outputs are the
specification's outputs, step for step, and the final states are related. -/
theorem refinement_run (hl : hs.Lawful) : ∀ (ops : List (Op U T P S × Nat)) (db : Db U T H)
    (a : Spec.State U T P), Rel hs cfg db a → Spec.Fresh a.drawnUids a.drawnToks ops →
    Rel hs cfg (run hs cfg db ops).1
      (Spec.run cfg.defaultLifetime cfg.defaultRefreshLifetime a ops).1 ∧
    (run hs cfg db ops).2 = (Spec.run cfg.defaultLifetime cfg.defaultRefreshLifetime a ops).2
  | [], db, a, hr, _ => ⟨hr, rfl⟩
  | (op, now) :: rest, db, a, hr, hf => by
    have h1 := refinement_step hl hr op now hf.1
    have h2 := refinement_run hl rest _ _ h1.1 (hf.tail _ _)
    exact ⟨h2.1, by simp only [run, Spec.run, h1.2, h2.2]⟩

/-! ## Corollaries (for every reachable = related state) -/

/-- **A password verifies only for the user created with it**: `verify(uid, pw)` is true exactly when
`uid` exists and was created with `pw`. -/
theorem verify_only_owner (hl : hs.Lawful) (hr : Rel hs cfg db a) (u : U) (p : P) :
    verifyPw hs cfg db u p = true ↔ a.pw u = some p := by
  rw [sim_verify hl hr u p]; simp

/-- **A token authenticates exactly the user it was issued to, only while valid**: `get_uid_by_token`
answers `Ok(u)` exactly when the token map sends `tok` to `u` (issued to `u`, not invalidated, `u` not
removed, not replaced by a newer session) and `now` is before its expiry. -/
theorem token_authenticates_exactly_owner_while_valid (hr : Rel hs cfg db a) (tok : T) (now : Nat) (u : U) :
    getUidByToken db tok now = .uid u ↔ ∃ e, a.sess tok = some (u, e) ∧ now < e := by
  rw [sim_getUidByToken hr tok now, ← Spec.live_eq_some]
  cases Spec.live a now tok <;> simp

/-- **At most one live session per user**: two tokens that authenticate the same user at the same time
are the same token. -/
theorem at_most_one_live_session (hr : Rel hs cfg db a) (t1 t2 : T) (now : Nat) (u : U)
    (h1 : getUidByToken db t1 now = .uid u) (h2 : getUidByToken db t2 now = .uid u) : t1 = t2 := by
  obtain ⟨e1, hs1, _⟩ := (token_authenticates_exactly_owner_while_valid hr t1 now u).mp h1
  obtain ⟨e2, hs2, _⟩ := (token_authenticates_exactly_owner_while_valid hr t2 now u).mp h2
  exact (hr.sess_unique hs1 hs2).1

/-- The three statements above with the quantification over histories spelled out: start from any
pre-populated database (or the empty one), run **any** operation sequence with fresh draws at **any**
clock values; then password checks and token lookups answer exactly what the abstract maps say. -/
theorem owner_only_after_any_history (hl : hs.Lawful) (init : List (U × P × S))
    (hd : (init.map (·.1)).Pairwise (· ≠ ·)) (ops : List (Op U T P S × Nat))
    (hf : Spec.Fresh (init.map (·.1)) [] ops) (now : Nat) :
    let db : Db U T H := (run hs cfg (initDb hs cfg init) ops).1
    let a : Spec.State U T P :=
      (Spec.run cfg.defaultLifetime cfg.defaultRefreshLifetime (initSpec init) ops).1
    (∀ u p, verifyPw hs cfg db u p = true ↔ a.pw u = some p) ∧
    (∀ tok u, getUidByToken db tok now = .uid u ↔ ∃ e, a.sess tok = some (u, e) ∧ now < e) ∧
    (∀ t1 t2 u, getUidByToken db t1 now = .uid u → getUidByToken db t2 now = .uid u → t1 = t2) := by
  have hr := (refinement_run (cfg := cfg) hl ops _ _ (rel_init hs cfg init hd) hf).1
  exact ⟨fun u p => verify_only_owner hl hr u p,
    fun tok u => token_authenticates_exactly_owner_while_valid hr tok now u,
    fun t1 t2 u h1 h2 => at_most_one_live_session hr t1 t2 now u h1 h2⟩

/-- The tokens returned by the operations of a history, in order. -/
def outToks : List (Out U T) → List T
  | [] => []
  | .tok t :: rest => t :: outToks rest
  | _ :: rest => outToks rest

/-- **Tokens never repeat** (from `Fresh`): the tokens handed out during a history are pairwise distinct
and differ from every token drawn before it. -/
theorem tokens_never_repeat (hs : HashScheme P S Pep H) (cfg : Config Pep) :
    ∀ (ops : List (Op U T P S × Nat)) (db : Db U T H) (du : List U) (dt : List T), Spec.Fresh du dt ops →
    (outToks (run hs cfg db ops).2).Nodup ∧ ∀ t ∈ outToks (run hs cfg db ops).2, t ∉ dt
  | [], _, _, _, _ => ⟨List.nodup_nil, by simp [run, outToks]⟩
  | (op, now) :: rest, db, du, dt, hf => by
    have ih := tokens_never_repeat hs cfg rest (step hs cfg db op now).1 _ _ hf.2
    simp only [run]
    cases hout : (step hs cfg db op now).2 with
    | tok t =>
      obtain ⟨hft, hdraw⟩ := step_tok hs cfg db op now t hout du dt hf.1
      rw [hdraw] at ih
      simp only [outToks, List.nodup_cons, List.mem_cons]
      refine ⟨⟨fun hmem => (ih.2 t hmem) List.mem_cons_self, ih.1⟩, ?_⟩
      rintro t' (rfl | hmem)
      · exact hft
      · exact fun hd => ih.2 t' hmem (List.mem_cons_of_mem _ hd)
    | unit | bool _ | uid _ | err _ | panic | http200 _ | http401 =>
      exact ⟨ih.1, fun t' hmem hd => ih.2 t' hmem (Spec.mem_drawT hd op)⟩

/-- **An expired or unknown token is rejected by every operation, including refresh, and nothing
changes.** `refresh_session`, `get_uid_by_token` and the authenticated route answer `InvalidToken` /
`401` and leave the database exactly as it was. `invalidate_session` (which returns `()` in every case)
at most forgets the dead entry: afterwards every token authenticates whom it authenticated before, at
every later time, and the users are the same. -/
theorem expired_or_unknown_rejected_by_all (hr : Rel hs cfg db a) (tok : T) (now : Nat)
    (hdead : ∀ u e, a.sess tok = some (u, e) → e ≤ now) :
    refreshSession cfg db tok now = (db, .err .invalidToken) ∧
    getUidByToken db tok now = .err .invalidToken ∧
    authRoute db (some tok) now = .http401 ∧
    (invalidateSession db tok).2 = .unit ∧
    (∀ t' now', now ≤ now' →
      getUidByToken (invalidateSession db tok).1 t' now' = getUidByToken db t' now') ∧
    (∀ u, userExists (invalidateSession db tok).1 u = userExists db u) := by
  have hget : getUidByToken db tok now = .err .invalidToken := by
    rw [sim_getUidByToken hr, Spec.live_eq_none.mpr hdead]
  have hrefresh : refreshSession cfg db tok now = (db, .err .invalidToken) := by
    rcases hr.lookupTok tok with ⟨h1, _⟩ | ⟨x, e, h1, h2, h3, _⟩
    · simp [refreshSession, h1]
    · have hnlt : ¬ now < e := Nat.not_lt.mpr (hdead _ _ h3)
      simp [refreshSession, h1, h2, sessionValid, hnlt]
  -- `invalidate_session` does not look at the lifetimes: any two values do
  have hsim := sim_invalidateSession (S := S) hr 0 0 tok now
  refine ⟨hrefresh, hget, by simp [authRoute, hget], by rw [hsim.2]; rfl, fun t' now' hle => ?_, fun u => ?_⟩
  · rw [sim_getUidByToken hsim.1, sim_getUidByToken hr]
    -- forgetting a token that no longer authenticates anybody changes nobody's answer
    have : Spec.live (Spec.step 0 0 a (.invalidateSession tok : Op U T P S) now).1 now' t' =
        Spec.live a now' t' := by
      by_cases ht : t' = tok
      · rw [ht, Spec.live_eq_none.mpr fun u e h => Nat.le_trans (hdead u e h) hle]
        simp [Spec.live, Spec.step, Spec.upd]
      · simp [Spec.live, Spec.step, Spec.upd, ht]
    rw [this]
  · rw [sim_exists hsim.1 u, sim_exists hr u]; rfl

/-- **A dead token is dead for good.** Once a drawn token is absent from the token map (invalidated,
owner removed, replaced) or expired, then after any further history (fresh draws, clock not going back) every
operation that takes it still rejects it, at every later time. -/
theorem dead_token_rejected_forever (hl : hs.Lawful) (hr : Rel hs cfg db a) (tok : T) (now : Nat)
    (hd : Dead a tok now) (ops : List (Op U T P S × Nat)) (hm : Monotone now ops)
    (hf : Spec.Fresh a.drawnUids a.drawnToks ops) (now' : Nat) (hle : lastClock now ops ≤ now') :
    let db' := (run hs cfg db ops).1
    refreshSession cfg db' tok now' = (db', .err .invalidToken) ∧
    getUidByToken db' tok now' = .err .invalidToken ∧
    authRoute db' (some tok) now' = .http401 := by
  have hrun := refinement_run hl ops db a hr hf
  have hdead := dead_run cfg.defaultLifetime cfg.defaultRefreshLifetime ops a tok now hd hm hf
  have h := expired_or_unknown_rejected_by_all hrun.1 tok now'
    (fun u e hs' => Nat.le_trans (hdead.2 u e hs') hle)
  exact ⟨h.1, h.2.1, h.2.2.1⟩

/-- **Removing a user kills its token**: if `tok` belonged to `u` and `remove_user(u)` succeeds, then `tok`
is rejected by everything, for ever. -/
theorem removed_user_token_dead (hl : hs.Lawful) (hr : Rel hs cfg db a) (tok : T) (u : U) (e now : Nat)
    (hown : a.sess tok = some (u, e)) (hrem : (removeUserOp db u).2 = .unit)
    (ops : List (Op U T P S × Nat)) (hm : Monotone now ops)
    (hf : Spec.Fresh a.drawnUids a.drawnToks ops) (now' : Nat) (hle : lastClock now ops ≤ now') :
    let db' := (run hs cfg (removeUserOp db u).1 ops).1
    refreshSession cfg db' tok now' = (db', .err .invalidToken) ∧
    getUidByToken db' tok now' = .err .invalidToken ∧
    authRoute db' (some tok) now' = .http401 := by
  have hsim := sim_removeUser (S := S) hr cfg.defaultLifetime cfg.defaultRefreshLifetime u now
  cases hp : a.pw u with
  | none =>
    have := hsim.2
    simp [hrem, Spec.step, hp] at this
  | some p =>
    simp only [Spec.step, hp, Option.isNone_some, Bool.false_eq_true, if_false] at hsim
    refine dead_token_rejected_forever hl hsim.1 tok now ⟨hr.drawnT tok u e hown, fun u' e' h => ?_⟩ ops hm hf
      now' hle
    have := Spec.dropSessionsOf_eq_some.mp h
    rw [hown] at this
    cases this.1
    exact absurd rfl this.2

/-- **The authenticated route answers 401 unless the cookie is a live token**, and otherwise runs the
handler with the owner's uid (the model's handler answers 200 with the uid it was given); the request
changes nothing (`step … (.authRoute c)` returns the database it was given, by definition). -/
theorem auth_route_401_unless_live_token (hr : Rel hs cfg db a) (c : Option T) (now : Nat) :
    (∀ u, authRoute db c now = .http200 u ↔ ∃ tok e, c = some tok ∧ a.sess tok = some (u, e) ∧ now < e) ∧
    ((¬ ∃ tok u e, c = some tok ∧ a.sess tok = some (u, e) ∧ now < e) → authRoute db c now = .http401) := by
  rw [sim_authRoute hr c now]
  cases c with
  | none => simp
  | some tok =>
    simp only [Option.bind_some, Option.some.injEq, exists_and_left, exists_eq_left', ← Spec.live_eq_some]
    cases Spec.live a now tok <;> simp

end

/-! ## Non-vacuity: a concrete scheme satisfying the contract and a concrete history -/

/-- A hash scheme that satisfies the contract (it stores password and pepper). -/
def hsDemo : HashScheme Nat Nat Nat (Nat × Nat × Nat) where
  hash p s pep := (p, s, pep)
  verify h p pep := h.1 == p && h.2.2 == pep

theorem hsDemo_lawful : hsDemo.Lawful := by
  intro p s pep p' pep'
  simp [hsDemo]

def cfgDemo : Config Nat := { defaultLifetime := 3600, defaultRefreshLifetime := 3600, pepper := 1 }

/-- create a user; give it a 10 s session; use it; let it expire; refresh and lookup are refused; a new
session is issued; the user is removed; the route answers 401. -/
def demo : List (Op Nat Nat Nat Nat × Nat) :=
  [ (.createUser 7 0 0, 100), (.createSessionWithLifetime 0 10 0, 100), (.getUidByToken 0, 109),
    (.refreshSession 0, 110), (.getUidByToken 0, 110), (.createSession 0 1, 112),
    (.authRoute (some 1), 113), (.removeUser 0, 113), (.authRoute (some 1), 114) ]

example : (run hsDemo cfgDemo ([] : Db Nat Nat (Nat × Nat × Nat)) demo).2 =
    [.uid 0, .tok 0, .uid 0, .err .invalidToken, .err .invalidToken, .tok 1, .http200 0, .unit, .http401] :=
  rfl

theorem demo_fresh : Spec.Fresh ([] : List Nat) ([] : List Nat) demo := by
  simp [demo, Spec.Fresh, Spec.FreshOp, Spec.drawT]

example : Spec.Fresh ([] : List Nat) ([] : List Nat) demo := demo_fresh

example : Monotone 100 demo := by simp [demo, Monotone]

/-- The hypotheses of the refinement are satisfiable together, and its conclusion is then not trivial:
the specification's outputs for the history above are the answers the model gives. -/
example : (Spec.run 3600 3600 (Spec.empty : Spec.State Nat Nat Nat) demo).2 =
    [.uid 0, .tok 0, .uid 0, .err .invalidToken, .err .invalidToken, .tok 1, .http200 0, .unit, .http401] :=
  ((refinement_run (cfg := cfgDemo) hsDemo_lawful demo [] Spec.empty (rel_empty hsDemo cfgDemo)
    demo_fresh).2).symm.trans rfl

/-- `Dead` is satisfiable: token 0 of the history above, once expired. -/
example : Dead (Spec.run 3600 3600 (Spec.empty : Spec.State Nat Nat Nat) (demo.take 2)).1 0 110 := by
  refine ⟨by decide, fun u e h => ?_⟩
  have : (Spec.run 3600 3600 (Spec.empty : Spec.State Nat Nat Nat) (demo.take 2)).1.sess 0 = some (0, 110) :=
    rfl
  rw [this] at h
  cases h
  exact Nat.le_refl 110

/-! ## The configuration denoted by set-up code

`build` runs the builder methods / `with_config` line by line (`Model/Auth.lean`); `Spec.effective` says what the
set-up code denotes, reading it from the end (last `with_config`; last call per field on that value; defaults
otherwise). They agree for every list of calls, so the refinement above, which holds for EVERY `cfg`, applies with
`dl := (Spec.effective …).lifetime`, `rl := (Spec.effective …).refreshLifetime`. -/
section
variable {Pep : Type}

def Spec.Eff.toConfig (e : Spec.Eff Pep) : Config Pep :=
  { defaultLifetime := e.lifetime, defaultRefreshLifetime := e.refreshLifetime, pepper := e.pepper }

/-- The builder state after the calls `back` (latest first), read off field by field. -/
theorem build_back (np : Pep) : ∀ back : List (BCall Pep),
    back.reverse.foldl (bstep np) { cfg := Config.dflt np, prov := Config.dflt np } =
      { cfg := (Spec.fieldsOf np back).toConfig, prov := (Spec.effectiveBack np back).toConfig }
  | [] => rfl
  | c :: r => by
    rw [List.reverse_cons, List.foldl_append, build_back np r]
    cases c <;> rfl

/-- The builder, run call by call, yields exactly the configuration the set-up code denotes. -/
theorem build_eq_effective (np : Pep) (calls : List (BCall Pep)) :
    build np calls = (Spec.effective np calls).toConfig := by
  have := congrArg BState.prov (build_back np calls.reverse)
  rwa [List.reverse_reverse] at this

/-- The order of calls of DIFFERENT builder methods is irrelevant; of the same method the last one wins. -/
example (np : Pep) (a b a' : Nat) (p : Pep) :
    build np [.refreshLifetime b, .defaultLifetime a, .pepper p, .withConfig]
      = build np [.defaultLifetime a', .pepper p, .defaultLifetime a, .refreshLifetime b, .withConfig] := rfl

example : build 0 [.refreshLifetime 7, .defaultLifetime 5, .withConfig] =
    ({ defaultLifetime := 5, defaultRefreshLifetime := 7, pepper := 0 } : Config Nat) := rfl

/-- A configuration that is never installed, or is replaced by a later `with_config`, has no effect. -/
example : build 0 [.defaultLifetime 5, .pepper 2] = Config.dflt 0 := rfl
example : build 0 [.defaultLifetime 5, .pepper 2, .withConfig, .newConfig, .refreshLifetime 7, .withConfig] =
    ({ defaultLifetime := 3600, defaultRefreshLifetime := 7, pepper := 0 } : Config Nat) := rfl

end

end Humphrey.Auth
