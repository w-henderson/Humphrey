import HumphreyModel.Props.C13
import HumphreyModel.Proofs.JsonRecSound
import HumphreyModel.Proofs.JsonRecDepth
import HumphreyModel.Proofs.JsonDecShow

/-!
# C13, trusted base — the executable acceptor of the driver is the inductive grammar

The correspondence driver judges the Rust parser's accept/reject answer with the executable
acceptor `JsonSpec.recognise : List Char → Option (Nat × Bool)` (nesting depth, "has an escape
denoting an unpaired surrogate"). The theorems of `Props/C13.lean` are stated against the
inductive grammar `JsonText C s v d`. This file proves that the two coincide:

* `recognise s = some (d, false)` iff `s` is a `JsonText` of nesting depth exactly `d`
  (`JsonText`'s depth index is exact: it is a function of the text, `json_text_depth_unique`);
* the fuel `2 * s.length + 2` that `recognise` supplies is sufficient (part of completeness);
* `Value::parse` (the model) accepts `s` iff `recognise s = some (d, false)` with `d ≤ MAX_DEPTH`.

Soundness needs the codec to read every number lexeme (`LawfulCodec.parse_total`), because
`J.number` carries the denotation of the lexeme; completeness needs nothing about the codec.

Second half: the executable codec `decCodec` the driver instantiates the model with is lawful,
`decCodec_lawful : LawfulCodec decCodec DecFin`, where `DecFin` (normal form: no trailing decimal
zero in the mantissa, zero is `0e0` with either sign) is exactly the range of `decParse`.
-/
namespace Humphrey.Json
open Humphrey.JsonSpec

variable {N : Type} {C : NumCodec N}

/-- **Completeness of the acceptor, with depth.** A text of the grammar with depth index `d` is
accepted, the depth reported is `d`, the unpaired-surrogate flag is `false`; in particular the fuel
`2 * s.length + 2` is never exhausted. No assumption on the codec. -/
theorem recognise_complete {s : List Char} {v : Value N} {d : Nat} (h : JsonText C s v d) :
    recognise s = some (d, false) := by
  obtain ⟨w1, t, w2, rfl, hw1, hw2, hj⟩ := h
  obtain ⟨c, r, rfl, hcws, _⟩ := J_value_head hj
  have hp : recValue (2 * (w1 ++ (c :: r ++ w2)).length + 2) _ false = _ :=
    J_recCompleteAt hj _ false w2 (by simpa using delim_ws_append hw2 delim_nil)
      (by simp only [List.length_append, List.length_cons]; omega)
  unfold recognise
  rw [List.cons_append] at hp ⊢
  rw [rec_skipWs_ws_then _ hw1 hcws, hp]
  simp [rec_skipWs_eq, flush_ws hw2]

/-- **Soundness of the acceptor, with depth.** If the acceptor answers `(d, false)` the text is in
the grammar with depth index `d` (for a codec that reads every RFC 8259 number lexeme). -/
theorem recognise_sound (hC : ∀ l, NumberLexeme l → ∃ n, C.parse l = some n) {s : List Char} {d : Nat}
    (h : recognise s = some (d, false)) : ∃ v, JsonText C s v d := by
  revert h
  fun_cases recognise s
  case case2 d' lone r hv hemp =>
    intro h; cases h
    obtain ⟨_, t, v, hs, hj⟩ := (rec_sound_at_fuel C hC _).1 _ _ _ _ hv
    obtain ⟨w1, hw1, hs1⟩ := rec_skipWs_split s
    obtain ⟨w2, hw2, hs2⟩ := rec_skipWs_split r
    rw [List.isEmpty_iff.1 hemp, List.append_nil] at hs2
    exact ⟨v, w1, t, r, by rw [← hs]; exact hs1, hw1, hs2 ▸ hw2, hj⟩
  all_goals intro h; cases h

/-- **`recognise` is the grammar, depth included**: the acceptor answers `(d, false)` exactly on
the RFC 8259 texts without unpaired-surrogate escapes whose nesting depth is `d`. -/
theorem recognise_depth_iff_json_text (hC : ∀ l, NumberLexeme l → ∃ n, C.parse l = some n)
    (s : List Char) (d : Nat) : recognise s = some (d, false) ↔ ∃ v, JsonText C s v d :=
  ⟨recognise_sound hC, fun ⟨_, h⟩ => recognise_complete h⟩

/-- **`recognise` is the grammar** (acceptance alone). -/
theorem recognise_iff_json_text (hC : ∀ l, NumberLexeme l → ∃ n, C.parse l = some n) (s : List Char) :
    (∃ d, recognise s = some (d, false)) ↔ ∃ v d, JsonText C s v d :=
  ⟨fun ⟨d, h⟩ => let ⟨v, hj⟩ := recognise_sound hC h; ⟨v, d, hj⟩,
   fun ⟨_, d, h⟩ => ⟨d, recognise_complete h⟩⟩

/-- `recognise_depth_iff_json_text` for a lawful codec (the form used with `decCodec_lawful`). -/
theorem recognise_depth_iff_json_text_of_lawful {Fin : N → Prop} (hC : LawfulCodec C Fin) (s : List Char) (d : Nat) :
    recognise s = some (d, false) ↔ ∃ v, JsonText C s v d :=
  recognise_depth_iff_json_text hC.parse_total s d

/-- The depth index of `JsonText` is exact (a function of the text), not an upper bound. -/
theorem json_text_depth_unique {s : List Char} {v v' : Value N} {d d' : Nat}
    (h : JsonText C s v d) (h' : JsonText C s v' d') : d = d' := by
  have a := recognise_complete h
  have b := recognise_complete h'
  rw [a] at b
  simp only [Option.some.injEq, Prod.mk.injEq, and_true] at b
  exact b

/-- What is outside the grammar: rejected, or flagged as containing an unpaired-surrogate escape. -/
theorem not_json_text_iff_recognise (hC : ∀ l, NumberLexeme l → ∃ n, C.parse l = some n) (s : List Char) :
    (¬ ∃ v d, JsonText C s v d) ↔ (recognise s = none ∨ ∃ d, recognise s = some (d, true)) := by
  rw [← recognise_iff_json_text hC]
  cases h : recognise s with
  | none => simp
  | some p =>
    obtain ⟨d, b⟩ := p
    cases b <;> simp

/-- **The model parser against the acceptor the driver uses**: `Value::parse` accepts exactly the
texts on which `recognise` answers `(d, false)` with `d ≤ MAX_DEPTH`. -/
theorem parse_accepts_iff_recognise (hC : ∀ l, NumberLexeme l → ∃ n, C.parse l = some n) (s : List Char) :
    (∃ v, parse C s = some v) ↔ ∃ d, d ≤ maxDepth ∧ recognise s = some (d, false) := by
  rw [parse_accepts_iff]
  constructor
  · rintro ⟨v, d, hd, hj⟩
    exact ⟨d, hd, recognise_complete hj⟩
  · rintro ⟨d, hd, hr⟩
    obtain ⟨v, hj⟩ := recognise_sound hC hr
    exact ⟨v, d, hd, hj⟩

/-- The three branches of the driver's `json_parse` verdict, for the model: rejected by the
acceptor ⇒ rejected by the parser; flagged ⇒ rejected by the parser (the model never accepts an
unpaired-surrogate escape; the driver lets the implementation go either way); too deep ⇒ rejected. -/
theorem parse_none_of_recognise (hC : ∀ l, NumberLexeme l → ∃ n, C.parse l = some n) {s : List Char}
    (h : recognise s = none ∨ (∃ d, recognise s = some (d, true)) ∨
      ∃ d b, maxDepth < d ∧ recognise s = some (d, b)) : parse C s = none := by
  cases hp : parse C s with
  | none => rfl
  | some v =>
    obtain ⟨d, hd, hr⟩ := (parse_accepts_iff_recognise hC s).1 ⟨v, hp⟩
    rcases h with h | ⟨d', h⟩ | ⟨d', b, hlt, h⟩
    · rw [h] at hr; cases hr
    · rw [h] at hr; cases hr
    · rw [h] at hr
      simp only [Option.some.injEq, Prod.mk.injEq] at hr
      omega

/-! ### Non-vacuity -/

/-- `parse_none_of_recognise` applies: the flagged text below is rejected by the model -/
example : parse unitCodec ['"', '\\', 'u', 'D', '8', '0', '0', '"'] = none :=
  parse_none_of_recognise unitCodec_lawful.parse_total (Or.inr (Or.inl ⟨0, by decide⟩))

/-- `parse_accepts_iff_recognise` applies, right to left -/
example : ∃ v, parse unitCodec ['[', '[', ']', ',', '0', ']'] = some v :=
  (parse_accepts_iff_recognise unitCodec_lawful.parse_total _).2 ⟨2, by decide, by decide⟩

/-- the acceptor on the text of the `JsonText` example of `Props/C13.lean`: depth 3, no flag -/
example : recognise [' ', '[', '0', ' ', ',', '{', '"', 'a', '\\', 'n', '"', ':', '[', ']', '}', ']'] =
    some (3, false) := by decide

/-- an unpaired high surrogate is accepted with the flag set, hence not a `JsonText` -/
example : recognise ['"', '\\', 'u', 'D', '8', '0', '0', '"'] = some (0, true) := by decide

/-- a surrogate pair is fine -/
example : recognise ['"', '\\', 'u', 'D', '8', '0', '0', '\\', 'u', 'D', 'C', '0', '0', '"'] =
    some (0, false) := by decide

/-- leading zeros, trailing commas, bare words are rejected -/
example : recognise ['0', '1'] = none ∧ recognise ['[', '1', ',', ']'] = none ∧
    recognise ['n', 'u', 'l'] = none := by decide

/-- the hypotheses of `recognise_sound` are satisfiable, and its conclusion is a real derivation -/
example : ∃ v, JsonText unitCodec ['[', '0', ']'] v 1 :=
  recognise_sound unitCodec_lawful.parse_total (by decide)

/-! ### The depth index is `depthOf` of the value denoted -/

theorem json_text_depthOf {s : List Char} {v : Value N} {d : Nat} (h : JsonText C s v d) : depthOf v = d := by
  obtain ⟨_, _, _, _, _, _, hj⟩ := h
  exact J_depthOf hj

theorem parse_depthOf_le {s : List Char} {v : Value N} (h : parse C s = some v) : depthOf v ≤ maxDepth := by
  obtain ⟨d, hd, hj⟩ := parse_sound h
  rwa [json_text_depthOf hj]

/-- The depth the acceptor reports is the nesting depth `depthOf` of the value the model returns. -/
theorem recognise_depth_eq_depthOf {s : List Char} {v : Value N} (h : parse C s = some v) :
    recognise s = some (depthOf v, false) := by
  obtain ⟨d, _, hj⟩ := parse_sound h
  rw [json_text_depthOf hj]
  exact recognise_complete hj

/-! ## The executable codec of the driver is lawful -/

/-- `from_str` law: `decParse` succeeds on every RFC 8259 number lexeme. -/
theorem decParse_total (l : List Char) (h : NumberLexeme l) : ∃ n, decParse l = some n := by
  have hl := (isNumberLexeme_iff l).2 h
  unfold decParse
  rw [hl]
  exact ⟨_, rfl⟩

/-- `decParse` accepts exactly the RFC 8259 number lexemes. -/
theorem decParse_isSome_iff (l : List Char) : (∃ n, decParse l = some n) ↔ NumberLexeme l := by
  refine ⟨?_, decParse_total l⟩
  rintro ⟨n, h⟩
  rw [← isNumberLexeme_iff]
  cases hl : isNumberLexeme l with
  | true => rfl
  | false => unfold decParse at h; rw [hl] at h; simp at h

/-- `Display` law, for *every* `DecNum` (normal or not): the text printed is a number lexeme. -/
theorem decShow_lexeme (d : DecNum) : NumberLexeme (decShow d) := dec_show_lexeme d

/-- round-trip law: `decParse (decShow d) = some d` for `d` in normal form. -/
theorem decParse_decShow (d : DecNum) (h : DecFin d) : decParse (decShow d) = some d := dec_parse_show d h

/-- `DecFin` is exactly the range of `decParse` … -/
theorem decFin_iff_range (d : DecNum) : DecFin d ↔ ∃ l, decParse l = some d :=
  ⟨fun h => ⟨decShow d, dec_parse_show d h⟩, fun ⟨_, h⟩ => dec_parse_fin h⟩

/-- … hence the *tightest* predicate under which the round-trip law can hold. -/
theorem decParse_decShow_iff (d : DecNum) : decParse (decShow d) = some d ↔ DecFin d :=
  ⟨fun h => dec_parse_fin h, dec_parse_show d⟩

/-- **The codec the driver runs the model with satisfies the three laws the theorems of C13 assume.** -/
theorem decCodec_lawful : LawfulCodec decCodec DecFin :=
  ⟨decParse_total, fun n _ => dec_show_lexeme n, dec_parse_show⟩

/-- Outside the normal form the round-trip law fails (so `DecFin` cannot be dropped): a trailing
zero in the mantissa moves into the exponent, and zero loses its exponent. -/
example : ¬ DecFin ⟨false, 10, 0⟩ ∧ decParse (decShow ⟨false, 10, 0⟩) = some ⟨false, 1, 1⟩ := by decide
example : ¬ DecFin ⟨false, 0, 5⟩ ∧ decParse (decShow ⟨false, 0, 5⟩) = some ⟨false, 0, 0⟩ := by decide

/-- negative zero is a normal form of its own and survives the round trip (`-0` ≠ `0`, as for `f64`) -/
example : DecFin ⟨true, 0, 0⟩ ∧ decShow ⟨true, 0, 0⟩ = ['-', '0'] ∧
    decParse ['-', '0'] = some ⟨true, 0, 0⟩ ∧ decParse ['0'] = some ⟨false, 0, 0⟩ := by decide

/-- exponent signs, upper/lower case `e`, fraction digits: all read to the same normal form -/
example : decParse ['1', '2', '.', '5', '0', 'e', '+', '0', '2'] = some ⟨false, 125, 1⟩ ∧
    decParse ['1', '2', '5', '0', 'E', '0'] = some ⟨false, 125, 1⟩ ∧
    decParse ['0', '.', '0', '1', '2', '5', 'e', '-', '1'] = some ⟨false, 125, -5⟩ ∧
    decShow ⟨false, 125, -5⟩ = ['0', '.', '0', '0', '1', '2', '5'] ∧
    decShow ⟨true, 125, -1⟩ = ['-', '1', '2', '.', '5'] ∧
    decShow ⟨false, 125, 2⟩ = ['1', '2', '5', '0', '0'] := by decide

/-! ## The theorems of C13 for the driver's instance -/

/-- `recognise` is the grammar instantiated with the driver's codec. -/
theorem recognise_iff_json_text_dec (s : List Char) (d : Nat) :
    recognise s = some (d, false) ↔ ∃ v, JsonText decCodec s v d :=
  recognise_depth_iff_json_text_of_lawful decCodec_lawful s d

/-- The model as run by the driver accepts exactly what the acceptor of the driver accepts without
flag, up to `MAX_DEPTH`. -/
theorem parse_dec_accepts_iff_recognise (s : List Char) :
    (∃ v, parse decCodec s = some v) ↔ ∃ d, d ≤ maxDepth ∧ recognise s = some (d, false) :=
  parse_accepts_iff_recognise decCodec_lawful.parse_total s

/-- Every number in a value returned by the model (run with `decCodec`) is in normal form … -/
theorem parse_dec_finite {s : List Char} {v : Value DecNum} (h : parse decCodec s = some v) :
    FiniteNumbers DecFin v := by
  obtain ⟨d, _, _, _, _, _, _, _, hj⟩ := parse_sound h
  exact J_finiteNumbers (C := decCodec) (fun _ _ hp => dec_parse_fin hp) hj

/-- … so the round-trip theorems of C13 apply to it: parse ∘ serialise ∘ parse = parse. -/
theorem parse_dec_reserialize {s : List Char} {v : Value DecNum} (h : parse decCodec s = some v) :
    parse decCodec (serialize decCodec v) = some v :=
  roundtrip decCodec_lawful v (parse_dec_finite h) (parse_depthOf_le h)

theorem parse_dec_reserialize_pretty (indent : Nat) {s : List Char} {v : Value DecNum}
    (h : parse decCodec s = some v) : parse decCodec (serializePretty decCodec indent v) = some v :=
  roundtrip_pretty decCodec_lawful indent v (parse_dec_finite h) (parse_depthOf_le h)

/-- non-vacuity: the round trip on a concrete value with the driver's codec -/
example : parse decCodec (serialize decCodec (.array [.number ⟨true, 125, -5⟩, .object [(['k'], .number ⟨false, 0, 0⟩)]])) =
    some (.array [.number ⟨true, 125, -5⟩, .object [(['k'], .number ⟨false, 0, 0⟩)]]) :=
  roundtrip decCodec_lawful _ (by simp [FiniteNumbers, FiniteList, FiniteMembers]; decide)
    (by simp [depthOf, depthList, depthMembers, maxDepth])

end Humphrey.Json
