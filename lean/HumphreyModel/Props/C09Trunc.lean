import HumphreyModel.Proofs.TruncWire
import HumphreyModel.Props.C09
import HumphreyModel.Props.C07Roundtrip

/-!
# C09 — each valid upstream response, cut at every byte offset, is answered 502

Model: `Model/Proxy.lean` (`proxyRequest`), `Model/Response.lean` (`parseResponse`). Helper lemmas:
`Proofs/TruncCut.lean`, `Proofs/TruncWire.lean`.

The fact does not depend on what the bytes are: if the response parser accepts a stream and the
response it reads is self-delimiting (Content-Length, chunked, or a status without body), then every
prefix that ends before the end of that response is an error, and the proxy answers 502 for every
segmentation of the prefix into reads and whether the upstream then closes or stalls
(`cut_short_502`). The theorems below put in the two families of messages the round-trip theorems
of `Props/C07Roundtrip.lean` describe.

A response `r` as the serialiser writes it is `headBytes r ++ r.body ++ pad r`: the head (status line,
field lines, blank line — `headBytes_eq`: what the serialiser writes for `r` without its body), the body,
and the surplus CRLF the serialiser appends after a non-empty body (`serialize_eq_wire_pad`; recorded
finding `crlf-after-body`). The message as framed by Content-Length is `wireBytes r = headBytes r ++
r.body`: it ends with the last body byte. Every cut strictly before that point is answered 502
(`cut_at_any_offset_502`). A cut at or after that point (inside the surplus CRLF) leaves a
complete message, which parses (`cut_in_pad_is_complete`) — so the bound is exact.

The same for chunked framing (`Spec.renderChunked`, hypotheses as in `chunked_decode`): every
proper prefix of the message — which ends with the CRLF after the last chunk — is answered 502
(`chunked_cut_at_any_offset_502`).
-/
namespace Humphrey.Http
open Humphrey Humphrey.Bytes Humphrey.IO

/-- Bytes that do not parse are answered 502 however they are cut into reads and however the
transmission ends. -/
theorem unparsable_bytes_502 (chunks : List Bytes) (ending : UpEnd) (e : RespErr)
    (h : parseResponse flatSource chunks.flatten = .err e) :
    proxyRequest (.accepted chunks ending) = badGateway := by
  rcases (parseResponse_reader_flat chunks).elim with ⟨a, t₁, t₂, _, e₂, _⟩ | ⟨e', e₁, _⟩ | ⟨_, e₂⟩
  · rw [h] at e₂; cases e₂
  · exact invalid_response_502 chunks ending e' e₁
  · rw [h] at e₂; cases e₂

/-- **Any self-delimiting response cut short is answered 502**: if the stream `s` begins with a
response `r` that is not close-delimited, and only `n` bytes of it arrive, `n` short of the end of
`r`, then the proxy answers 502 — for every way of cutting those bytes into reads and both endings
(the upstream closes, or stalls until the deadline). -/
theorem cut_short_502 {s : Bytes} {r : Response} {rest : Bytes}
    (h : parseResponse flatSource s = .ok (r, rest)) (hcd : closeDelimited r = false)
    {n : Nat} (hn : n + rest.length < s.length)
    (chunks : List Bytes) (hc : chunks.flatten = s.take n) (ending : UpEnd) :
    proxyRequest (.accepted chunks ending) = badGateway := by
  obtain ⟨e, he⟩ := parseResponse_cut h hcd hn
  exact unparsable_bytes_502 chunks ending e (hc ▸ he)

/-! ## Content-Length framing -/

/-- A cut inside the head is a parse error (`ResponseError::…`, from a line without LF). -/
theorem cut_in_head_is_response_error (r : Response) (h : r.WF) (hp : r.ParseBack)
    (n : Nat) (hn : n < (headBytes r).length) :
    parseResponse flatSource ((serializeResponse r).take n) = .err .response := by
  have hle : n ≤ (headBytes r ++ (r.body ++ pad r)).length := by rw [List.length_append]; omega
  rw [serialize_eq_wire_pad, wireBytes, List.append_assoc, ← Nat.sub_sub_self hle]
  exact (headOf_serialize r h hp _).cut_inside (by rw [List.length_append (as := headBytes r)]; omega)

/-- **Each valid Content-Length framed response cut at every byte offset ⇒ 502**: for every offset
before the last body byte, every way of cutting the prefix into reads, and both endings (the
upstream closes, or stalls until the deadline). -/
theorem cut_at_any_offset_502 (r : Response) (h : r.WF) (hp : r.ParseBack)
    (hcl : r.headers.get hContentLength = some (natToBytes r.body.length))
    (n : Nat) (hn : n < (headBytes r).length + r.body.length)
    (chunks : List Bytes) (hc : chunks.flatten = (serializeResponse r).take n) (ending : UpEnd) :
    proxyRequest (.accepted chunks ending) = badGateway := by
  have hpar := parseResponse_serialize r h hp [] (.inl hcl)
  rw [List.append_nil, List.append_nil] at hpar
  refine cut_short_502 hpar (by simp [closeDelimited, sorted_get, hcl]) ?_ chunks hc ending
  rw [serialize_eq_wire_pad]
  simp only [wireBytes, List.length_append]
  omega

/-- The bound is exact: cut at or after the last body byte (i.e. inside the serialiser's surplus
CRLF, or not at all) the message is complete; it parses to `r` (headers in sorted order) and the
proxy returns it. -/
theorem cut_in_pad_is_complete (r : Response) (h : r.WF) (hp : r.ParseBack)
    (hcl : r.headers.get hContentLength = some (natToBytes r.body.length))
    (n : Nat) (hn : (headBytes r).length + r.body.length ≤ n)
    (chunks : List Bytes) (hc : chunks.flatten = (serializeResponse r).take n) (ending : UpEnd) :
    proxyRequest (.accepted chunks ending) = ⟨r.version, r.status, r.headers.sorted, r.body⟩ := by
  have hs := parseResponse_reader_flat chunks
  rw [hc, parse_take_serialize r h hp hcl (by simp only [wireBytes, List.length_append]; exact hn)] at hs
  obtain ⟨t, e, _⟩ := hs.of_ok_right
  exact valid_response_returned chunks ending _ t e (.inr (by simp [closeDelimited, sorted_get, hcl]))

/-! ## Chunked framing -/

/-- The chunk decoder alone, on every proper prefix of a chunked body. -/
theorem chunked_body_cut_is_error (parts : List (Bytes × Bytes)) (last : Bytes)
    (hparts : ∀ p ∈ parts, Spec.HexSpells p.1 p.2.length ∧ p.2 ≠ [] ∧ p.2.length < 18446744073709551616)
    (hlast : Spec.HexSpells last 0) (k : Nat) (hk : k < (Spec.renderChunkedBody parts last).length)
    (fuel : Nat) :
    ∃ e, parseChunks flatSource fuel ((Spec.renderChunkedBody parts last).take k) [] = .err e := by
  have h := parseChunks_render parts last [] hparts hlast (parts.length + 1) (Nat.lt_succ_self _) []
  rw [List.append_nil] at h
  rw [← Nat.sub_sub_self (Nat.le_of_lt hk)]
  exact parseChunks_cut_inside h (Nat.sub_pos_of_lt hk) fuel

/-- **Each valid chunked response cut at every byte offset ⇒ 502**, for every segmentation of the
prefix and both endings. -/
theorem chunked_cut_at_any_offset_502 (version phrase : Bytes) (code : Nat) (hs₁ hs₂ : Headers)
    (parts : List (Bytes × Bytes)) (last : Bytes)
    (hver : ∀ b ∈ version, b ≠ 32 ∧ b ≠ 10) (hph : ∀ b ∈ phrase, b ≠ 10) (hk : statusKnown code = true)
    (hu : utf8Valid (version ++ 32 :: (natToBytes code ++ 32 :: phrase) ++ [13, 10]) = true)
    (hw : ∀ h ∈ hs₁ ++ hs₂, h.WF ∧ utf8Valid (headerLine h ++ [13, 10]) = true ∧
      wsPrefixLen h.value = 0 ∧ h.name ≠ hTransferEncoding)
    (hparts : ∀ p ∈ parts, Spec.HexSpells p.1 p.2.length ∧ p.2 ≠ [] ∧ p.2.length < 18446744073709551616)
    (hlast : Spec.HexSpells last 0) (n : Nat)
    (hn : n < (Spec.renderChunked version (natToBytes code) phrase
        ((hs₁ ++ teHeader :: hs₂).map headerLine) parts last).length)
    (chunks : List Bytes)
    (hc : chunks.flatten = (Spec.renderChunked version (natToBytes code) phrase
        ((hs₁ ++ teHeader :: hs₂).map headerLine) parts last).take n) (ending : UpEnd) :
    proxyRequest (.accepted chunks ending) = badGateway := by
  refine cut_short_502
    (chunked_decode version phrase code hs₁ hs₂ parts last hver hph hk hu hw hparts hlast) ?_ hn
    chunks hc ending
  -- the decoded response carries the synthesised Content-Length, so it is not close-delimited
  simp only [closeDelimited, Headers.get, List.find?_append]
  cases List.find? (fun h => decide (h.name = hContentLength)) (hs₁ ++ hs₂) <;> simp

/-! ## Non-vacuity -/

theorem sampleResponse_head_length : (headBytes sampleResponse).length = 46 := by decide

/-- The sample response of `Props/C07Roundtrip.lean` (`HTTP/1.1 200 OK`, `Content-Length: 1`,
`x-a: v`, body `x`): 46 bytes of head, one body byte, two bytes of surplus CRLF. -/
example : (headBytes sampleResponse).length = 46 ∧ (serializeResponse sampleResponse).length = 49 :=
  ⟨sampleResponse_head_length, by decide⟩

/-- All 47 cuts of it are answered 502, e.g. delivered as two reads and then a stall. -/
example (n : Nat) (hn : n < 47) :
    proxyRequest (.accepted [((serializeResponse sampleResponse).take n).take 7,
      ((serializeResponse sampleResponse).take n).drop 7] .silent) = badGateway :=
  cut_at_any_offset_502 sampleResponse sampleResponse_wf sampleResponse_parseBack (by decide) n
    (by have := sampleResponse_head_length
        have : sampleResponse.body.length = 1 := rfl
        omega) _ (by simp) _

/-- …while the cut after the last body byte is the complete response. -/
example : proxyRequest (.accepted [(serializeResponse sampleResponse).take 47] .closed) =
    ⟨sampleResponse.version, 200, sampleResponse.headers.sorted, [120]⟩ :=
  cut_in_pad_is_complete sampleResponse sampleResponse_wf sampleResponse_parseBack (by decide) 47
    (by rw [sampleResponse_head_length]; decide) _ (by simp) _

/-- A concrete chunked message (one chunk `a`, size spelled `01`; last chunk `0`): every proper
prefix is answered 502. -/
example (n : Nat)
    (hn : n < (Spec.renderChunked [72, 84, 84, 80, 47, 49, 46, 49] (natToBytes 200) [79, 75]
      (([] ++ teHeader :: []).map headerLine) [([48, 49], [97])] [48]).length) (ending : UpEnd) :
    proxyRequest (.accepted [(Spec.renderChunked [72, 84, 84, 80, 47, 49, 46, 49] (natToBytes 200) [79, 75]
      (([] ++ teHeader :: []).map headerLine) [([48, 49], [97])] [48]).take n] ending) = badGateway :=
  chunked_cut_at_any_offset_502 [72, 84, 84, 80, 47, 49, 46, 49] [79, 75] 200 [] [] [([48, 49], [97])] [48]
    (by decide) (by decide) (by decide) (by decide) (by simp)
    (by
      intro p hp
      simp only [List.mem_cons, List.not_mem_nil, or_false] at hp
      subst hp
      exact ⟨⟨by decide, by decide⟩, by decide, by decide⟩)
    ⟨by decide, by decide⟩ n hn _ (by simp) ending

end Humphrey.Http
