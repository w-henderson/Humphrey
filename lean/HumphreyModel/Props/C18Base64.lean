import HumphreyModel.Proofs.Base64Encode
import HumphreyModel.Proofs.Base64RoundTrip

/-!
# C18 (Base64 half) — `humphrey-ws/src/util/base64.rs` is exact with respect to RFC 4648 §4

Model: `Model/Base64.lean` (the loops of `encode` and `decode` after the
D3/D4 repairs, with an explicit `panic` outcome for the slice `to_be_bytes()[1..broken]`).
Spec: `Spec/Base64.lean` (bit-level: the bits of the input regrouped by 6 / by 8, Table 1, `=`
padding, the predicate `Shape`). All statements are for every byte string, no length bound.
Non-zero trailing bits in the last symbol before padding are *not* rejected (RFC 4648 §3.5: MAY).
-/
namespace Humphrey.Base64

/-- **Encoder = RFC 4648.** The shift-and-mask encoder produces exactly the bit-level encoding:
concatenate the input bits, regroup by 6 (zero bits added on the right), Table 1, `=` padding
to a multiple of four symbols. -/
theorem encode_eq_rfc4648 (b : Bytes) : encode b = Spec.encode b := by
  induction b using encode.induct with
  | case1 a b c rest ih =>
    rw [encode, ih, spec_encode_eq, spec_encode_eq, specSyms_group, List.append_assoc]
    congr 3
    simp [groupIndices]
    omega
  | case2 a => rw [encode, spec_encode_eq, specSyms_one]; rfl
  | case3 a b => rw [encode, spec_encode_eq, specSyms_two]; rfl
  | case4 => rfl

/-- Every `ALPHABET[..]` index the encoder computes is in bounds (the Rust indexing cannot panic). -/
theorem encode_indices_in_bounds (a b c : UInt8) :
    (∀ n ∈ groupIndices a.toNat b.toNat c.toNat, n < 64) ∧
    a.toNat / 4 < 64 ∧ a.toNat % 4 * 16 < 64 ∧ a.toNat % 4 * 16 + b.toNat / 16 < 64 ∧
    b.toNat % 16 * 4 < 64 := by
  obtain ⟨h0, h1, h2, h3⟩ := groupIndices_lt a.toNat_lt b.toNat_lt c.toNat_lt
  refine ⟨?_, h0, by omega, h1, by omega⟩
  intro n hn
  simp only [groupIndices, List.mem_cons, List.not_mem_nil, or_false] at hn
  rcases hn with rfl | rfl | rfl | rfl <;> assumption

/-- The model's div/mod indices are the shift/mask expressions of `base64.rs`, on `u8`:
`a >> 2`, `(a & 0x03) << 4 | b >> 4`, `(b & 0x0f) << 2 | c >> 6`, `c & 0x3f`. The tail arms `(a & 0x03) << 4` and
`(b & 0x0f) << 2` are the instances `b = 0` and `c = 0` (`x ||| 0 = x`). -/
theorem groupIndices_eq_shift_mask (a b c : UInt8) :
    groupIndices a.toNat b.toNat c.toNat =
      [(a >>> 2).toNat, ((a &&& 0x03) <<< 4 ||| b >>> 4).toNat,
       ((b &&& 0x0f) <<< 2 ||| c >>> 6).toNat, (c &&& 0x3f).toNat] := by
  have hb := b.toNat_lt
  have hc := c.toNat_lt
  have ma : a.toNat &&& 3 = a.toNat % 4 := Nat.and_two_pow_sub_one_eq_mod _ 2
  have mb : b.toNat &&& 15 = b.toNat % 16 := Nat.and_two_pow_sub_one_eq_mod _ 4
  have mc : c.toNat &&& 63 = c.toNat % 64 := Nat.and_two_pow_sub_one_eq_mod _ 6
  simp only [groupIndices, UInt8.toNat_shiftRight, UInt8.toNat_and, UInt8.toNat_or,
    UInt8.toNat_shiftLeft, Nat.shiftRight_eq_div_pow, Nat.shiftLeft_eq, UInt8.toNat_ofNat,
    Nat.reducePow, Nat.reduceMod, ma, mb, mc]
  rw [Nat.mod_eq_of_lt (show a.toNat % 4 * 16 < 256 by omega),
    Nat.mod_eq_of_lt (show b.toNat % 16 * 4 < 256 by omega),
    or_eq_add 4 (Nat.dvd_mul_left ..) (by omega), or_eq_add 2 (Nat.dvd_mul_left ..) (by omega)]

/-- The decoder's accumulation `decoded |= v << (6 * (3 - i))`, `i = 0..3`, over sextet values is
the sum the model computes: the four fields are disjoint. (With `v0 < 64` as well the sum is below `2^24`, so the
`u32` of the code does not overflow; the equality does not need that.) -/
theorem decoded_or_eq_add (v0 v1 v2 v3 : Nat) (h1 : v1 < 64) (h2 : v2 < 64) (h3 : v3 < 64) :
    (((0 ||| v0 <<< (6 * (3 - 0))) ||| v1 <<< (6 * (3 - 1))) ||| v2 <<< (6 * (3 - 2))) |||
        v3 <<< (6 * (3 - 3)) =
      v0 * 2 ^ (6 * (3 - 0)) + v1 * 2 ^ (6 * (3 - 1)) + v2 * 2 ^ (6 * (3 - 2)) +
        v3 * 2 ^ (6 * (3 - 3)) := by
  simp only [Nat.zero_or, Nat.shiftLeft_eq, Nat.reduceSub, Nat.reduceMul, Nat.reducePow]
  rw [or_eq_add (y := v1 * 4096) 18 (Nat.dvd_mul_left ..) (by omega),
    or_eq_add (y := v2 * 64) 12 (by omega) (by omega), or_eq_add 6 (by omega) (by omega)]

/-- **Round trip.** The decoder inverts the encoder on every byte string. -/
theorem decode_encode (b : Bytes) : decode (encode b) = .ok b := by
  rw [decode, if_neg (by simp [encode_length_mod]), decodeGroups_of_gshape (gshape_encode b),
    spec_decode_encode]

/-- **The decoder never panics** (the slice `[1..broken]` always has `1 ≤ broken ≤ 4`): for every
input, well-formed or not, the outcome is `Ok` or `Err`. -/
theorem decode_never_panics (s : Bytes) : decode s ≠ .panic := by
  unfold decode
  split
  · simp
  · exact decodeGroups_ne_panic s

/-- **Exactness of the decoder.** `decode` answers `Ok(b)` exactly when the text is well shaped
(alphabet symbols, then at most two `=`, total length a multiple of 4) and `b` is its bit-level
RFC 4648 decoding. -/
theorem decode_ok_iff (s b : Bytes) : decode s = .ok b ↔ Spec.Shape s ∧ b = Spec.decode s := by
  constructor
  · intro h
    unfold decode at h
    split at h
    · simp at h
    · next hlen =>
      have g := gshape_of_ok s (by omega) h
      rw [decodeGroups_of_gshape g] at h
      exact ⟨g.shape, (Outcome.ok.inj h).symm⟩
  · rintro ⟨hs, rfl⟩
    have g := (gshape_iff_shape s).mpr hs
    simp [decode, g.length_mod, decodeGroups_of_gshape g]

/-- **Accepted input is well shaped**: length a multiple of 4, alphabet symbols only, `=` only
as the last one or two symbols (see `shape_explicit`). -/
theorem decode_ok_implies_shape (s b : Bytes) (h : decode s = .ok b) : Spec.Shape s :=
  ((decode_ok_iff s b).mp h).1

/-- **Decoder = RFC 4648 on well-shaped input.** -/
theorem decode_eq_spec (s : Bytes) (h : Spec.Shape s) : decode s = .ok (Spec.decode s) :=
  (decode_ok_iff s _).mpr ⟨h, rfl⟩

/-- **Malformed input is rejected**: everything that is not well shaped yields `Err(())`. -/
theorem decode_err_iff (s : Bytes) : decode s = .err ↔ ¬ Spec.Shape s := by
  constructor
  · intro h hs
    rw [decode_eq_spec s hs] at h
    cases h
  · intro hs
    cases h : decode s with
    | ok b => exact (hs (decode_ok_implies_shape s b h)).elim
    | err => rfl
    | panic => exact (decode_never_panics s h).elim

/-- `Shape` spelled out position by position: the length is a multiple of 4; every symbol is in
the alphabet or is `=`; `=` can stand only in the last two positions (so, the length being a
multiple of 4, only as the last one or two symbols of the last group, with at least two alphabet
symbols before it in that group); and after a `=` there is nothing but `=`. -/
theorem shape_explicit (s : Bytes) (h : Spec.Shape s) :
    s.length % 4 = 0 ∧ (∀ c ∈ s, c ∈ Spec.table ∨ c = Spec.pad) ∧
    (∀ i, i + 2 < s.length → ∃ c, s[i]? = some c ∧ c ∈ Spec.table) ∧
    (∀ i j, i ≤ j → j < s.length → s[i]? = some Spec.pad → s[j]? = some Spec.pad) := by
  obtain ⟨body, n, rfl, hall, hn, hlen⟩ := h
  refine ⟨hlen, ?_, ?_, ?_⟩
  · intro c hc
    rcases List.mem_append.mp hc with hc | hc
    · exact .inl (hall c hc)
    · exact .inr (List.eq_of_mem_replicate hc)
  · intro i hi
    have hi' : i < body.length := by simp at hi; omega
    refine ⟨body[i], ?_, hall _ (List.getElem_mem hi')⟩
    rw [List.getElem?_append_left hi', List.getElem?_eq_getElem hi']
  · intro i j hij hj hi
    have hib : ¬ i < body.length := by
      intro hlt
      rw [List.getElem?_append_left hlt, List.getElem?_eq_getElem hlt] at hi
      have hm := hall _ (List.getElem_mem hlt)
      rw [Option.some.inj hi] at hm
      exact pad_not_mem_table hm
    have hjb : body.length ≤ j := by omega
    rw [List.getElem?_append_right hjb, List.getElem?_replicate]
    simp at hj
    simp; omega

/-- The decoder model *is* the executable specification the driver evaluates. -/
theorem decode_eq_driver_spec (s : Bytes) :
    decode s = if Spec.shapeB s then .ok (Spec.decode s) else .err := by
  by_cases h : Spec.shapeB s = true
  · rw [if_pos h]; exact decode_eq_spec s ((shapeB_iff_shape s).mp h)
  · rw [if_neg h]; exact (decode_err_iff s).mpr (fun hs => h ((shapeB_iff_shape s).mpr hs))

-- Non-vacuity, and the shapes that defeated the unrepaired decoder.
/-- `"+A=="` (D3): `+` is value 62 in the *first* position, i.e. the top six bits. -/
example : decode [43, 65, 61, 61] = .ok [0xF8] := by decide
/-- `"===="` (D4) is an error, not a panic. -/
example : decode [61, 61, 61, 61] = .err := by decide
/-- `"Zm=v"`, `"Zm9=Zm9v"`, `"Zm"`, `"Z==="` (D4) are rejected. -/
example : decode [90, 109, 61, 118] = .err := by decide
example : decode [90, 109, 57, 61, 90, 109, 57, 118] = .err := by decide
example : decode [90, 109] = .err := by decide
example : decode [90, 61, 61, 61] = .err := by decide
/-- `"Zm9v"`, `"Zm8="`, `"Zg=="` decode to `"foo"`, `"fo"`, `"f"`. -/
example : decode [90, 109, 57, 118] = .ok [102, 111, 111] := by decide
example : decode [90, 109, 56, 61] = .ok [102, 111] := by decide
example : decode [90, 103, 61, 61] = .ok [102] := by decide
example : Spec.Shape [90, 103, 61, 61] := decode_ok_implies_shape _ [102] (by decide)
example : ¬ Spec.Shape [90, 109, 61, 118] := (decode_err_iff _).mp (by decide)
/-- RFC 4648 §10 test vectors, on the *spec* (they validate the spec; labelled tests). -/
example : Spec.encode [102, 111, 111, 98, 97] = [90, 109, 57, 118, 89, 109, 69, 61] := by decide
example : Spec.decode [90, 109, 57, 118, 89, 109, 69, 61] = [102, 111, 111, 98, 97] := by decide
example : encode [0xFB, 0xEF, 0xBF] = [43, 43, 43, 47] := by decide    -- "+++/"

end Humphrey.Base64
