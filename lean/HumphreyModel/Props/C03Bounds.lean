import HumphreyModel.Proofs.TruncBounds
import HumphreyModel.Props.C02Faithful
import HumphreyModel.Props.C07Roundtrip

/-!
# C03 (memory) — what a parser keeps is bounded by the bytes it was supplied

`Props/C03.lean` proves this for the request body (`request_body_le_supplied`). Here: the response
body in all three framings (Content-Length, chunked — the sum of the chunk payloads —,
close-delimited), the WebSocket frame payload, and the header names and values of requests and
responses. A claimed length (Content-Length, a chunk-size line, the frame length field) never makes
a parser return — hence keep — more than it read. Helper lemmas: `Proofs/TruncBounds.lean`.

`headersSize hs` is the total length of the stored (lower-cased) names and the (left-trimmed) values.
-/
namespace Humphrey.Http
open Humphrey Humphrey.IO Humphrey.Bytes

/-! ## Response body -/

/-- **The response body buffer is bounded by the bytes supplied**, whatever Content-Length or the
chunk-size lines claim and whichever framing applies: the parsed body plus what is left unread fits
in the input. -/
theorem response_body_le_supplied (s : Bytes) (r : Response) (rest : Bytes)
    (h : parseResponse flatSource s = .ok (r, rest)) :
    r.body.length + rest.length ≤ s.length := by
  obtain ⟨hs, _, hb⟩ := parseResponse_size_le h
  omega

/-- The same per framing, on the body reader alone. Chunked: the decoded body (the concatenation of
the chunk payloads) plus the remainder is smaller than the chunked section by at least the three
bytes of the last-chunk line and its CRLF. -/
theorem chunked_body_le_supplied (fuel : Nat) (s body rest : Bytes)
    (h : parseChunks flatSource fuel s [] = .ok (body, rest)) :
    body.length + rest.length + 3 ≤ s.length := by
  simpa using parseChunks_size_le h

/-- Close-delimited: `read_to_end` returns no more than the stream held. -/
theorem close_delimited_body_le_supplied (fuel : Nat) (s : Bytes) :
    (readRest flatSource fuel s []).1.length + (readRest flatSource fuel s []).2.length ≤ s.length := by
  simpa using readRest_size_le fuel s []

/-- For every way the bytes are cut into reads. -/
theorem response_body_le_supplied_any_reads (reads : List Bytes) (r : Response) (t : Reader)
    (h : parseResponse readerSource (⟨[], reads⟩ : Reader) = .ok (r, t)) :
    r.body.length + t.rest.length ≤ reads.flatten.length := by
  have hs := parseResponse_reader_flat reads
  rw [h] at hs
  obtain ⟨rest, e, rfl⟩ := hs.of_ok_left
  exact response_body_le_supplied _ _ _ e

/-! ## Headers -/

/-- **The header loop keeps no more than it read** (request side): names and values of the fields
it returns, plus what it leaves unread, fit in what it was given — with room to spare for the `:`
and CRLF of each field and the blank line. -/
theorem header_loop_le_supplied (fuel : Nat) (s : Bytes) (hs : Headers) (rest : Bytes)
    (h : parseHeaders flatSource fuel s [] = .ok (hs, rest)) :
    headersSize hs + 3 * hs.length + 2 + rest.length ≤ s.length := by
  obtain ⟨_, rfl, hb⟩ := parseHeaders_size_le h
  exact hb

/-- The response header loop, likewise. -/
theorem resp_header_loop_le_supplied (fuel : Nat) (s : Bytes) (hs : Headers) (rest : Bytes)
    (h : parseRespHeaders flatSource fuel s [] = .ok (hs, rest)) :
    headersSize hs + 3 * hs.length + 2 + rest.length ≤ s.length := by
  obtain ⟨_, rfl, hb⟩ := parseRespHeaders_size_le h
  exact hb

/-- **Request: header names and values, body and unread remainder together fit in the bytes
supplied** (so the total size of the parsed headers is at most the number of bytes consumed,
`s.length - rest.length`, and the number of fields at most a third of it). -/
theorem headers_le_supplied (env : Env) (s : Bytes) (req : Request) (rest : Bytes)
    (h : parseRequest flatSource env s = .ok (req, rest)) :
    headersSize req.headers + (req.content.getD []).length + rest.length ≤ s.length ∧
    3 * req.headers.length + rest.length ≤ s.length := by
  have := parseRequest_size_le h
  constructor <;> omega

/-- **Response: the same for the header list the header loop built.** The response returned carries
that list `hs` itself (Content-Length and close-delimited framings), or — chunked framing — `hs`
without `Transfer-Encoding` followed by one synthesised `Content-Length: <decoded length>` field. -/
theorem response_headers_le_supplied (s : Bytes) (r : Response) (rest : Bytes)
    (h : parseResponse flatSource s = .ok (r, rest)) :
    ∃ hs : Headers,
      (r.headers = hs ∨
        r.headers = hs.remove hTransferEncoding ++ [⟨hContentLength, natToBytes r.body.length⟩]) ∧
      headersSize hs + r.body.length + rest.length ≤ s.length ∧
      3 * hs.length + rest.length ≤ s.length := by
  obtain ⟨hs, h1, h2⟩ := parseResponse_size_le h
  exact ⟨hs, h1, by omega, by omega⟩

/-- Without the case distinction: the headers of the parsed response exceed the bytes consumed by at
most the one synthesised field (its 14-byte name and the decimal digits of the body length). -/
theorem response_headers_le_supplied_plus (s : Bytes) (r : Response) (rest : Bytes)
    (h : parseResponse flatSource s = .ok (r, rest)) :
    headersSize r.headers + r.body.length + rest.length ≤
      s.length + 14 + (natToBytes r.body.length).length := by
  obtain ⟨hs, h1, h2, _⟩ := response_headers_le_supplied s r rest h
  rcases h1 with e | e
  · rw [e]; omega
  · rw [e, headersSize_append, headersSize_cons, headersSize_nil]
    have := headersSize_remove_le hs hTransferEncoding
    have e14 : hContentLength.lower.length = 14 := rfl
    simp only [e14]
    omega

end Humphrey.Http

namespace Humphrey.WsFrame

/-! ## WebSocket frames -/

/-- The length field is honoured only when that many bytes were really there: the payload is exactly
as long as the length field says, and the two header bytes, the payload and the unread remainder fit
in the script — however the bytes arrive (no assumption on the reads). -/
theorem frame_length_le_supplied (chunks : List Bytes) (f : Frame) (rest : List Bytes)
    (h : decodeFrame chunks = .ok (f, rest)) :
    f.payload.length = f.length ∧ 2 + f.length + rest.flatten.length ≤ chunks.flatten.length := by
  have := decodeWith_size_le readExact (fun s => s.flatten.length) (fun _ _ _ _ hr => readExact_size hr)
    chunks f rest h
  exact ⟨this.1, by omega⟩

/-- **The frame payload buffer is bounded by the bytes supplied**, whatever the length field claims
and however the bytes arrive: payload plus unread remainder fit in the script. -/
theorem frame_payload_le_supplied (chunks : List Bytes) (f : Frame) (rest : List Bytes)
    (h : decodeFrame chunks = .ok (f, rest)) :
    f.payload.length + rest.flatten.length ≤ chunks.flatten.length := by
  have := frame_length_le_supplied chunks f rest h
  omega

/-- A successful decode committed to a length (the model's `alloc` record; in the repaired Rust the
buffer grows with `take(length).read_to_end`) no larger than what the stream held. -/
theorem frame_alloc_le_supplied (chunks : List Bytes) (f : Frame) (rest : List Bytes)
    (h : decodeFrame chunks = .ok (f, rest)) : f.length + 2 ≤ chunks.flatten.length := by
  have := (frame_length_le_supplied chunks f rest h).2
  omega

end Humphrey.WsFrame

/-! ## Non-vacuity: each hypothesis is satisfiable -/

namespace Humphrey.Http
open Humphrey Humphrey.IO Humphrey.Bytes

/-- Content-Length framing (the sample response of `Props/C07Roundtrip.lean`). -/
example : ∃ r rest, parseResponse flatSource (serializeResponse sampleResponse ++ []) = .ok (r, rest) := by
  obtain ⟨r', h1, _⟩ :=
    parse_serialize sampleResponse sampleResponse_wf sampleResponse_parseBack [] (.inl (by decide))
  exact ⟨r', _, h1⟩

/-- Chunked framing. -/
example : ∃ r rest, parseResponse flatSource
    (Spec.renderChunked [72, 84, 84, 80, 47, 49, 46, 49] (natToBytes 200) [79, 75] ([teHeader].map headerLine)
      [([48, 49], [97])] [48]) = .ok (r, rest) := by
  have := chunked_decode [72, 84, 84, 80, 47, 49, 46, 49] [79, 75] 200 [] [] [([48, 49], [97])] [48]
    (by decide) (by decide) (by decide) (by decide) (by simp)
    (by
      intro p hp
      simp only [List.mem_cons, List.not_mem_nil, or_false] at hp
      subst hp
      exact ⟨⟨by decide, by decide⟩, by decide, by decide⟩)
    ⟨by decide, by decide⟩
  exact ⟨_, _, this⟩

/-- A request with three header fields and a body. -/
example : ∃ req rest, parseRequest flatSource ⟨[49], 80, fun _ => none⟩ (exampleReq.render ++ []) =
    .ok (req, rest) :=
  ⟨_, _, parse_render exampleReq ⟨[49], 80, fun _ => none⟩ exampleReq_wf []⟩

end Humphrey.Http

namespace Humphrey.WsFrame

/-- A masked five-byte text frame delivered in four reads, followed by one more byte. -/
example : ∃ f rest,
    decodeFrame [[0x81], [0x85, 0x37, 0xfa], [0x21, 0x3d, 0x7f, 0x9f, 0x4d, 0x51], [0x58, 0x00]] =
      .ok (f, rest) := ⟨_, _, rfl⟩

/-- A length field claiming more than the stream holds is an error, not a large buffer. -/
example : decodeFrame [[0x82, 0x7f, 0xff, 0xff, 0xff, 0xff, 0xff, 0xff, 0xff, 0xff, 0x41]] =
    .error .readError := by rfl

end Humphrey.WsFrame
