import HumphreyModel.Proofs.CacheHistory

/-!
# C16 — the file cache returns only the latest bytes for the same key and keeps its limits

Property theorems only. Model: `Model/Cache.lean` (`get`, `set`, `serve` as in `cache.rs`/`static.rs`).
Spec: `Spec/Cache.lean` (histories, the abstract map "last `set` per key").
`Reachable limit timeLimit ops c` (`Proofs/CacheHistory.lean`) = `c` is the state of a cache created with those
limits after the history `ops` ran without panicking; all statements quantify over every history of any
length over any keys.  Because all accesses of the server go through one `RwLock<Cache>` (`get` under
`read()`, `set` under `write()`), a concurrent history is one of these sequential histories (trusted;
checked on every run by replaying lock-ordered logs of 1..8 threads).
-/
namespace Humphrey.Cache
open Humphrey.CacheSpec

variable {limit timeLimit : Nat} {ops : List Op} {c : Cache}

/-- The two readings of the specification agree: the fold "a store overwrites its key" is "the most
recent store for the key in the history". -/
theorem absRun_eq_lastSet (ops : List Op) (k : Key) : absRun ops k = lastSet ops k := by
  simp [absRun, foldl_absStep, absEmpty]

/-- The limits are those the cache was created with. -/
theorem limits_constant (hr : Reachable limit timeLimit ops c) :
    c.limit = limit ∧ c.timeLimit = timeLimit :=
  ⟨(inv_reachable hr).limit_eq, (inv_reachable hr).timeLimit_eq⟩

/-- `cache_size` is exactly the sum of the lengths of the stored items. -/
theorem inv_size (hr : Reachable limit timeLimit ops c) : c.size = totalLen c.data :=
  (inv_reachable hr).size_eq

/-- The stored bytes never exceed the configured limit. -/
theorem inv_bound (hr : Reachable limit timeLimit ops c) : totalLen c.data ≤ limit :=
  (inv_reachable hr).size_eq ▸ (inv_reachable hr).bound

/-- At most one stored entry per (route, host). -/
theorem inv_unique_keys (hr : Reachable limit timeLimit ops c) :
    c.data.Pairwise (fun a b => (a.route, a.host) ≠ (b.route, b.host)) :=
  (inv_reachable hr).unique

/-- A lookup answers nothing or exactly the entry most recently stored for that same (route, host):
bytes, MIME type and store time are those of the last `set` for the key — never another entry's. -/
theorem get_latest_or_none (hr : Reachable limit timeLimit ops c) (now : Nat) (r : String) (h : Nat)
    (it : Item) (hg : get now c r h = .ok (some it)) :
    (it.route, it.host) = (r, h) ∧ lastSet ops (r, h) = some (it.data, it.mime, it.time) := by
  obtain ⟨hmem, hkey, _, _⟩ := get_ok_some hg
  have := (inv_reachable hr).latest it hmem
  rw [hkey, absRun_eq_lastSet] at this
  exact ⟨hkey, this⟩

/-- What a lookup returns is never older than the time limit (and not from the future). Holds for any
cache state whatsoever. -/
theorem get_fresh (now : Nat) (c : Cache) (r : String) (h : Nat) (it : Item)
    (hg : get now c r h = .ok (some it)) : it.time ≤ now ∧ now - it.time ≤ c.timeLimit :=
  ⟨(get_ok_some hg).2.2.1, (get_ok_some hg).2.2.2⟩

/-- With a clock that has not gone backwards (`now` is at or after every operation of the history) a
lookup does not panic. -/
theorem get_never_panics (hr : Reachable limit timeLimit ops c) (now : Nat)
    (hclock : ∀ op ∈ ops, op.time ≤ now) (r : String) (h : Nat) : get now c r h ≠ .panic := by
  apply get_no_panic
  intro it hit
  obtain ⟨op, hop, ht⟩ := stored_time_mem (inv_reachable hr) hit
  rw [← ht]; exact hclock op hop

/-- The hypothesis of `get_never_panics` is needed: a lookup at a clock value before the store panics
(`time - item.cache_time` underflows with overflow checks on). -/
example : get 4 ⟨8, 60, 1, [⟨"/a", 0, 1, 5, [7]⟩]⟩ "/a" 0 = .panic := by
  simp [get, find, isKey]

/-- Refinement: at every time, the map of retrievable entries of the concrete cache is a sub-map of the
abstract "last store per key" map of the history. -/
theorem refinement (hr : Reachable limit timeLimit ops c) (now : Nat) :
    SubMap (fun k => match get now c k.1 k.2 with
              | .ok (some it) => some (it.data, it.mime, it.time)
              | _ => none)
           (absRun ops) := by
  intro k v hv
  dsimp only at hv
  split at hv
  · next it hg =>
    cases hv
    rw [absRun_eq_lastSet]
    exact (get_latest_or_none hr now k.1 k.2 it hg).2
  · cases hv

/-- Every non-panicking answer of a lookup is one the specification allows. -/
theorem get_allowed (hr : Reachable limit timeLimit ops c) (now : Nat) (r : String) (h : Nat)
    (o : Option Item) (hg : get now c r h = .ok o) :
    Allowed (absRun ops) timeLimit now (r, h) (o.map fun it => (it.data, it.mime, it.time)) := by
  cases o with
  | none => exact Or.inl rfl
  | some it =>
    have h1 := (get_latest_or_none hr now r h it hg).2
    rw [← absRun_eq_lastSet] at h1
    have h2 := get_fresh now c r h it hg
    rw [(limits_constant hr).2] at h2
    exact Or.inr ⟨h1.symm, it.data, it.mime, it.time, h1, h2.1, h2.2⟩

/-- Storing an item no larger than the limit never panics, in any reachable state. -/
theorem set_never_panics (hr : Reachable limit timeLimit ops c) (t : Nat) (r : String) (h : Nat)
    (v : List UInt8) (m : Nat) (hv : v.length ≤ limit) : ∃ c', set t c r h v m = .ok c' :=
  set_no_panic (inv_reachable hr) t r h m hv

/-- The size hypothesis of `set_never_panics` is needed: in every reachable state, storing an item larger
than the limit panics (the eviction loop empties the deque and then indexes `data[0]`). -/
theorem set_panics_beyond_limit (hr : Reachable limit timeLimit ops c) (t : Nat) (r : String) (h : Nat)
    (v : List UInt8) (m : Nat) (hv : limit < v.length) : set t c r h v m = .panic := by
  have hi := inv_reachable hr
  rcases set_spec t r h v m hi.size_eq hi.unique with ⟨_, hp⟩ | ⟨_, _, _, hle, _⟩
  · exact hp
  · rw [hi.limit_eq] at hle; omega

/-- The explicit counterexample outside the hypothesis: 4 bytes into an empty cache of limit 3. -/
example : set 0 (empty 3 60) "/a" 0 [1, 2, 3, 4] 0 = .panic := by
  simp [set, evict, empty]

/-- An item no larger than the limit is retrievable right after being stored (no operation in between):
after `set t k v` (which succeeds), `get t' k` returns exactly `v`, its MIME type and store time `t`,
whenever the clock has not gone backwards (`t ≤ t'`) and `t' - t ≤ timeLimit`. -/
theorem get_after_set (hr : Reachable limit timeLimit ops c) (t t' : Nat) (r : String) (h : Nat)
    (v : List UInt8) (m : Nat) (hv : v.length ≤ limit) (hclock : t ≤ t') (hfresh : t' - t ≤ timeLimit) :
    ∃ c', set t c r h v m = .ok c' ∧ get t' c' r h = .ok (some ⟨r, h, m, t, v⟩) := by
  have hi := inv_reachable hr
  rcases set_spec t r h v m hi.size_eq hi.unique with ⟨hl, _⟩ | ⟨kept, _, hnk, _, hs⟩
  · rw [hi.limit_eq] at hl; omega
  · refine ⟨_, hs, ?_⟩
    unfold get
    rw [find_append_new hnk rfl]
    simp only [hi.timeLimit_eq]
    rw [if_neg (by omega), if_neg (by omega)]

/-- The time hypothesis of `get_after_set` is needed: with time limit 1 the entry is gone 2 s later. -/
example : ∃ c', set 10 (empty 8 1) "/a" 0 [1] 0 = .ok c' ∧ get 12 c' "/a" 0 = .ok none :=
  ⟨_, rfl, by simp [get, find, isKey, empty]⟩

/-- A history whose stores all fit the limit and whose clock never goes backwards runs to the end
without a panic, from the empty cache. -/
theorem history_never_panics (limit timeLimit : Nat) (ops : List Op)
    (hsize : SizesWithin limit ops) (hclock : ClockMonotone ops) :
    ∃ c, Reachable limit timeLimit ops c :=
  run_no_panic (inv_empty limit timeLimit) hsize hclock

/-- The total size of the entries that lookups can return never exceeds the limit: over any
duplicate-free list of keys, the byte counts of the answers of `get` at time `now` sum to at most `limit`. -/
theorem retrievable_total_le_limit (hr : Reachable limit timeLimit ops c) (now : Nat) (ks : List Key)
    (hnd : ks.Nodup) : sumOver (answerLen now c) ks ≤ limit :=
  Nat.le_trans (sumOver_answerLen_le now c ks hnd) (inv_bound hr)

/-! ## Handler level (`cache_check` + `inner_file_handler`) -/

/-- A static handler never panics in the cache code, whatever the size of the file: the handler stores
only files with `len ≤ size_limit` (clock not gone backwards). -/
theorem serve_never_panics (hr : Reachable limit timeLimit ops c) (now : Nat)
    (hclock : ∀ op ∈ ops, op.time ≤ now) (uri : String) (host : Nat) (contents : List UInt8) (mime : Nat) :
    ∃ c' s, serve now c uri host contents mime = .ok (c', s) := by
  exact serve_no_panic (get_never_panics hr now hclock uri host)
    (fun hle => set_no_panic (inv_reachable hr) now uri host mime ((limits_constant hr).1 ▸ hle))

/-- A cache hit of a handler answers exactly the bytes and MIME type of the most recent `set` for the
same (uri, host) in the history, and they are not older than the time limit. -/
theorem serve_hit_is_latest (hr : Reachable limit timeLimit ops c) (now : Nat) (uri : String) (host : Nat)
    (contents : List UInt8) (mime : Nat) (c' : Cache) (s : Served)
    (hs : serve now c uri host contents mime = .ok (c', s)) (hhit : s.hit = true) :
    c' = c ∧ ∃ t, lastSet ops (uri, host) = some (s.body, s.mime, t) ∧ t ≤ now ∧ now - t ≤ timeLimit := by
  rcases serve_cases hs with ⟨_, hc, _, it, hg, hb, hm⟩ | ⟨hf, _⟩
  · refine ⟨hc, it.time, ?_, ?_⟩
    · rw [hb, hm]; exact (get_latest_or_none hr now uri host it hg).2
    · have := get_fresh now c uri host it hg
      rw [(limits_constant hr).2] at this
      exact this
  · rw [hf] at hhit; cases hhit

/-- A miss answers the file's current contents, and extends the history by at most one `set` of exactly
those contents (so every state a handler produces is again `Reachable`). -/
theorem serve_miss_stores_contents (hr : Reachable limit timeLimit ops c) (now : Nat) (uri : String)
    (host : Nat) (contents : List UInt8) (mime : Nat) (c' : Cache) (s : Served)
    (hs : serve now c uri host contents mime = .ok (c', s)) (hmiss : s.hit = false) :
    s.body = contents ∧ s.mime = mime ∧
    (Reachable limit timeLimit ops c' ∨ Reachable limit timeLimit (ops ++ [.set now uri host contents mime]) c') := by
  rcases serve_cases hs with ⟨hh, _⟩ | ⟨_, hb, hm, hcase⟩
  · rw [hh] at hmiss; cases hmiss
  · refine ⟨hb, hm, ?_⟩
    rcases hcase with ⟨_, hc⟩ | ⟨_, hset⟩
    · exact Or.inl (hc ▸ hr)
    · exact Or.inr (by rw [Reachable, run_append, hr]; simp [run, step, hset])

/-! ## Non-vacuity: the hypotheses are satisfiable and the conclusions are hit -/

/-- A concrete history (stores that force an eviction, an overwrite of a key, lookups) is reachable. -/
example : Reachable 4 60
    [.set 0 "/a" 0 [1, 2] 0, .set 1 "/b" 1 [3, 4] 1, .get 1 "/a" 0, .set 2 "/a" 0 [5, 6, 7] 2, .get 3 "/b" 1]
    ⟨4, 60, 3, [⟨"/a", 0, 2, 2, [5, 6, 7]⟩]⟩ := by
  simp [Reachable, run, step, set, get, evict, find, isKey, empty]

/-- … and in that state the lookup returns the latest bytes for the key (`get_latest_or_none` is not
vacuous: `get` does answer `some`). -/
example : get 3 ⟨4, 60, 3, [⟨"/a", 0, 2, 2, [5, 6, 7]⟩]⟩ "/a" 0 = .ok (some ⟨"/a", 0, 2, 2, [5, 6, 7]⟩) := by
  simp [get, find, isKey]

/-- `lastSet` on that history: the overwritten key maps to the later store. -/
example : lastSet [.set 0 "/a" 0 [1, 2] 0, .set 1 "/b" 1 [3, 4] 1, .get 1 "/a" 0, .set 2 "/a" 0 [5, 6, 7] 2]
    ("/a", 0) = some ([5, 6, 7], 2, 2) := by
  simp [lastSet, storesAt]

/-- `history_never_panics` has satisfiable hypotheses. -/
example : ∃ c, Reachable 4 60 [.set 0 "/a" 0 [1, 2] 0, .get 5 "/a" 0] c :=
  history_never_panics 4 60 _ (by simp [SizesWithin, Op.storeLen]) (by simp [ClockMonotone, Op.time])

/-- A stale entry is not returned (time limit 0: retrievable in the same second only). -/
example : get 1 ⟨4, 0, 1, [⟨"/a", 0, 0, 0, [9]⟩]⟩ "/a" 0 = .ok none := by
  simp [get, find, isKey]

/-- Handler level: a hit, then (file changed, entry stale) a miss that stores the new contents. -/
example : serve 5 ⟨4, 10, 1, [⟨"/a", 0, 0, 0, [9]⟩]⟩ "/a" 0 [8] 0 =
    .ok (⟨4, 10, 1, [⟨"/a", 0, 0, 0, [9]⟩]⟩, ⟨true, [9], 0⟩) := by
  simp [serve, get, find, isKey]
example : serve 11 ⟨4, 10, 1, [⟨"/a", 0, 0, 0, [9]⟩]⟩ "/a" 0 [8] 0 =
    .ok (⟨4, 10, 1, [⟨"/a", 0, 0, 11, [8]⟩]⟩, ⟨false, [8], 0⟩) := by
  simp [serve, get, set, evict, find, remove, isKey]

end Humphrey.Cache
