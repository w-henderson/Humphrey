import HumphreyModel.Proofs.TruncBounds
import HumphreyModel.Props.C10
import HumphreyModel.Props.C13
import HumphreyModel.Props.C15

/-!
# C03 — no input can crash, wedge or exhaust a parser

The five parser models (request: `Model/Http.lean`; response: `Model/Response.lean`; WebSocket
frame: `Model/WsFrame.lean`; JSON: `Model/Json.lean`; configuration: `Model/Conf.lean`) keep Rust's
panics explicit (`Outcome.panic`, `Res.panic`) or return `Option`/`Except`. They are total Lean
functions (structural recursion or fuel bounded by the input length), so each returns a value or
an error on every input; the theorems below add that the value is never the panic outcome, for
every byte source / input, and that what a parser buffers is bounded by the bytes actually
supplied, not by a claimed length.

What a theorem about the model cannot exhibit: the real stack and allocator. The correspondence
run (worker processes with an address-space limit, a watchdog and a counting allocator) observes
those on the real code: abort, hang and peak allocation per case.
-/
namespace Humphrey.Http
open Humphrey Humphrey.IO

/-! ## Request and response parsers: never the panic outcome, for every source and input -/

theorem parseHeaders_never_panics {σ : Type} (S : Source σ) (fuel : Nat) (s : σ) (acc : Headers) :
    parseHeaders S fuel s acc ≠ .panic := by
  induction fuel generalizing s acc with
  | zero => nofun
  | succ fuel ih =>
    rw [parseHeaders_succ]
    split
    · nofun
    · split
      · exact ih _ _
      · nofun
      · -- a field line is a field or an error
        rename_i hp
        exfalso
        revert hp
        unfold parseHeaderLine
        repeat' split
        all_goals nofun

theorem parseRespHeaders_never_panics {σ : Type} (S : Source σ) (fuel : Nat) (s : σ) (acc : Headers) :
    parseRespHeaders S fuel s acc ≠ .panic := by
  rw [parseRespHeaders_eq]
  cases h : parseHeaders S fuel s acc with
  | ok r => nofun
  | err e => nofun
  | panic => exact absurd h (parseHeaders_never_panics S fuel s acc)

/-- **The HTTP request parser never panics**, whatever the bytes and however they are delivered. -/
theorem request_parser_never_panics {σ : Type} (S : Source σ) (env : Env) (s : σ) :
    parseRequest S env s ≠ .panic := by
  unfold parseRequest
  repeat' split
  -- the one branch that hands on an outcome it did not build is the header loop's
  all_goals first
    | (rename_i h; exact absurd h (parseHeaders_never_panics S _ _ _))
    | nofun

theorem parseChunk_never_panics {σ : Type} (S : Source σ) (s : σ) : parseChunk S s ≠ .panic := by
  unfold parseChunk
  repeat' split
  all_goals nofun

theorem parseChunks_never_panics {σ : Type} (S : Source σ) (fuel : Nat) (s : σ) (acc : Bytes) :
    parseChunks S fuel s acc ≠ .panic := by
  induction fuel generalizing s acc with
  | zero => nofun
  | succ fuel ih =>
    rw [parseChunks]
    split
    · nofun
    · exact ih _ _
    · nofun
    · rename_i hp
      exact absurd hp (parseChunk_never_panics S s)

theorem parseBody_never_panics {σ : Type} (S : Source σ) (code : Nat) (hs : Headers) (s : σ) :
    parseBody S code hs s ≠ .panic := by
  unfold parseBody
  repeat' split
  -- only the chunked branch hands on an outcome it did not build
  all_goals first
    | (rename_i h; exact absurd h (parseChunks_never_panics S _ _ _))
    | nofun

/-- **The HTTP response parser never panics** (chunked bodies included). -/
theorem response_parser_never_panics {σ : Type} (S : Source σ) (s : σ) :
    parseResponse S s ≠ .panic := by
  unfold parseResponse
  repeat' split
  -- two outcomes are handed on: the header loop's and the body reader's
  all_goals first
    | (rename_i h; exact absurd h (parseRespHeaders_never_panics S _ _ _))
    | (rename_i h; exact absurd h (parseBody_never_panics S _ _ _))
    | nofun

/-! ## Memory: what is buffered is bounded by what was supplied -/

/-- **The request body buffer is bounded by the bytes supplied, not by the claimed Content-Length**:
whatever the headers claim, a parsed request's body plus what is left unread fits in the input. -/
theorem request_body_le_supplied (env : Env) (s : Bytes) (req : Request) (rest : Bytes)
    (h : parseRequest flatSource env s = .ok (req, rest)) :
    (req.content.getD []).length + rest.length ≤ s.length := by
  have := parseRequest_size_le h
  omega

/-- With fewer than `n` bytes left, `read_exact(n)` fails. This is the read `parseRequest` makes for a
body of claimed length `n`, and a failed read there is an error, not a buffer of `n` bytes. -/
theorem claimed_length_beyond_input_is_error (n : Nat) (s : Bytes) (h : s.length < n) :
    flatReadExact n s = none := by
  unfold flatReadExact
  split
  · omega
  · rfl

end Humphrey.Http

namespace Humphrey
/-! ## The other three parsers (restated from their slices) -/

/-- **WebSocket frame decoder**: a total function into `Except`, which is all this says. That
truncated input is a read error (no allocation of the claimed length can succeed) and that reserved
opcodes are rejected is `WsFrame.decode_truncated`, `WsFrame.reserved_opcode_rejected` in
`Props/C10.lean`. -/
theorem ws_decoder_total (chunks : List Bytes) :
    (∃ f rest, WsFrame.decodeFrame chunks = .ok (f, rest)) ∨ (∃ e, WsFrame.decodeFrame chunks = .error e) := by
  cases h : WsFrame.decodeFrame chunks with
  | ok p => exact .inl ⟨p.1, p.2, rfl⟩
  | error e => exact .inr ⟨e, rfl⟩

/-- **Configuration parser**: never the panic outcome, for every file system, text and file name
(`Conf.conf_never_panics`, proved in the C15 slice after its four repairs; nesting is bounded by
`MAX_NESTING_DEPTH`). -/
theorem conf_parser_never_panics (fs : Conf.FS) (conf filename : Conf.Str) :
    Conf.parseConf fs conf filename ≠ .panic :=
  Conf.conf_never_panics fs conf filename

/-- **JSON parser**: a total function into `Option`; whatever it accepts is nested no deeper than the
depth limit, so recursion depth is bounded whatever the input (`Json.parse_sound`). -/
theorem json_parser_depth_bounded {N : Type} (C : Json.NumCodec N) (s : List Char) (v : Json.Value N)
    (h : Json.parse C s = some v) : ∃ d, d ≤ Json.maxDepth ∧ JsonSpec.JsonText C s v d :=
  Json.parse_sound h

end Humphrey
