import HumphreyModel.Proofs.JsonTypedMacro
import HumphreyModel.Proofs.JsonTypedRound
import HumphreyModel.Proofs.JsonTypedShape
import HumphreyModel.Props.C13

/-!
# C14 — typed JSON mapping and the `json!` macro preserve every value

Property theorems only. Model: `Model/JsonTyped.lean` (the `json!` / `json_array_internal!` /
`json_object_internal!` munchers after the repair of the `null` arm; the code generated by
`derive(FromJson, IntoJson)` and `json_map!`; `traits.rs`). Spec: `Spec/JsonTyped.lean` (`Lit`,
`Lit.tok`, `Lit.spell`, `Lit.denote`, `shapeOk`, `KeysDistinct`, `NoNestedOpt`, `Representable`).
-/
namespace Humphrey.JsonTyped
open Humphrey.Json Humphrey.JsonSpec

/-- For every literal of the documented grammar (any nesting, embedded expressions and `null` in
every position, keys as literals or expressions, with or without trailing commas) the munchers
evaluate its token tree to the value the literal denotes. -/
theorem json_macro_value {N : Type} (l : Lit N) : expandJson [l.tok] = some l.value := by
  simp [expandJson, expandTok_lit l]

/-- **A `json!` literal evaluates to the same value as parsing the JSON text it spells**
(`Value::parse`, C13), for every lawful number codec; the side conditions are those of the
parser's round trip: finite numbers in the embedded expressions, nesting within the parser's
limit of 256. -/
theorem json_macro_eq_parse {N : Type} {C : NumCodec N} {Fin : N → Prop} (hC : LawfulCodec C Fin)
    (l : Lit N) (hv : FiniteNumbers Fin l.value) (hd : depthOf l.value ≤ maxDepth) :
    expandJson [l.tok] = l.denote C := by
  rw [json_macro_value, Lit.denote, spell_eq_serialize, roundtrip hC _ hv hd]

/-- the text a literal spells is RFC 8259 JSON denoting the literal's value -/
theorem json_literal_spells_json {N : Type} {C : NumCodec N} {Fin : N → Prop} (hC : LawfulCodec C Fin)
    (l : Lit N) (hv : FiniteNumbers Fin l.value) : JsonText C (l.spell C) l.value (depthOf l.value) := by
  rw [spell_eq_serialize]; exact serialize_is_json hC _ hv

/-- D22: the array arm for `null` passes the rest on, `json!([null, 1, 2])` is not `[null]` -/
example : expandJson [Tok.group .brack [.null, .comma, .expr (.number (Num.int 1)), .comma, .expr (.number (Num.int 2))]] =
    some (.array [.null, .number (Num.int 1), .number (Num.int 2)]) := by
  simp [expandJson, expandTok, expandArray]

/-- non-vacuity of `json_macro_eq_parse`: `json!({"k": [null, 0, "x",], k2: {}})` with the unit codec -/
example : expandJson [(Lit.obj [(.literal, ['k'], .arr [.null, .expr (.number ()), .str ['x']] true),
      (.expression, ['k', '2'], .obj [] false)] false : Lit Unit).tok] =
    Lit.denote unitCodec (.obj [(.literal, ['k'], .arr [.null, .expr (.number ()), .str ['x']] true),
      (.expression, ['k', '2'], .obj [] false)] false) :=
  json_macro_eq_parse unitCodec_lawful _
    (by simp [Lit.value, Lit.values, Lit.memberValues, FiniteNumbers, FiniteMembers, FiniteList])
    (by simp [Lit.value, Lit.values, Lit.memberValues, depthOf, depthMembers, depthList, maxDepth])

/-- **`from_json(to_json(v)) = Ok(v)`** for every type of the universe and every value of it,
when keys / variant names are pairwise distinct, no `Option<Option<_>>` occurs, and every integer
in the value is an `f64`. -/
theorem from_to (ty : Ty) (v : Val ty) (hk : KeysDistinct ty) (hn : NoNestedOpt ty)
    (hr : Representable v.1) : fromJson ty (toJson ty v.1) = .ok v.1 :=
  fromJson_toJson ty v.1 v.2 hk hn hr

/-- every integer of magnitude at most `2^53` satisfies the hypothesis of `from_to` -/
theorem representable_of_abs_le_2_53 (i : Int) (h : i.natAbs ≤ 2 ^ 53) : Representable (.int i) :=
  f64Exact_of_le i h

/-! ### each hypothesis is necessary (the unrestricted statement
`∀ ty (v : Val ty), fromJson ty (toJson ty v) = ok v` is false) -/

/-- `2^53 + 1 : u64` does not survive: it comes back as `2^53` (known finding `int-beyond-2^53`) -/
theorem u64_beyond_2_53_lost :
    fromJson (.num .u64) (toJson (.num .u64) (.int 9007199254740993)) = .ok (.int 9007199254740992) := by
  have h : roundF64 9007199254740993 = 9007199254740992 := by decide
  have hc : clamp .u64 9007199254740992 = 9007199254740992 := by decide
  simp [toJson, fromJson, castTo, Num.ofInt, Num.trunc, h, hc]

example : hasTy (.num .u64) (.int 9007199254740993) = true := by decide
example : ¬ Representable (.int 9007199254740993) := by
  simp only [Representable, F64Exact]; decide

/-- `Some(None) : Option<Option<bool>>` does not survive: it comes back as `None`
(known finding `nested-option-some-none`) -/
theorem some_none_lost :
    fromJson (.opt (.opt .bool)) (toJson (.opt (.opt .bool)) (.some .none)) = .ok .none := by
  simp [toJson, fromJson]

example : hasTy (.opt (.opt .bool)) (.some .none) = true := by simp [hasTy]

/-- two fields mapped to the same key: the second field reads the first one's member -/
theorem duplicate_key_lost :
    fromJson (.named [(['a'], .bool), (['a'], .bool)])
      (toJson (.named [(['a'], .bool), (['a'], .bool)]) (.fields [.bool true, .bool false])) =
    .ok (.fields [.bool true, .bool true]) := by
  simp [toJson, toJsonFields, fromJson, fromJsonFields, getKey, findKey]

/-- two variants renamed to the same string: the second comes back as the first -/
theorem duplicate_variant_lost :
    fromJson (.enum [['x'], ['x']]) (toJson (.enum [['x'], ['x']]) (.variant 1)) = .ok (.variant 0) := by
  simp [toJson, fromJson, findVariant]

/-- non-vacuity of `from_to`: a struct with a renamed key, an `Option`, a `Vec`, a nested tuple
struct and an enum -/
example :
    let ty : Ty := .named [(['a', ' ', '"'], .opt (.num .u8)), (['f', '1'], .vec (.tuple [.str, .enum [['V', '0'], ['w']]]))]
    let v : TVal := .fields [.some (.int 7), .vec [.fields [.str ['s'], .variant 1]]]
    fromJson ty (toJson ty v) = .ok v := by
  intro ty v
  refine from_to ty ⟨v, by decide⟩ ?_ ?_ ?_
  · simp [ty, KeysDistinct, KeysDistinctFields, KeysDistinctList]
  · simp [ty, NoNestedOpt, NoNestedOptFields, NoNestedOptList, Ty.isOpt]
  · simp only [v, Representable, RepresentableList, and_true]
    exact f64Exact_of_le 7 (by decide)

/-- **Named struct** (derive or `json_map!`): an object with exactly one member per field, in
field order, keyed by the field's name or rename. -/
theorem shape_named (fs : List (Key × Ty)) (v : Val (.named fs)) :
    ∃ ms, toJson (.named fs) v.1 = .object ms ∧ ms.map (·.1) = fs.map (·.1) ∧ shapeFields fs ms = true := by
  obtain ⟨v, hv⟩ := v
  cases v <;> simp only [hasTy, Bool.false_eq_true] at hv
  rename_i vs
  exact ⟨toJsonFields fs vs, by simp [toJson], toJsonFields_keys fs vs hv, shapeFields_toJson fs vs hv⟩

/-- **Tuple struct**: an array with one element per field. -/
theorem shape_tuple (ts : List Ty) (v : Val (.tuple ts)) :
    ∃ xs, toJson (.tuple ts) v.1 = .array xs ∧ xs.length = ts.length ∧ shapeTuple ts xs = true := by
  obtain ⟨v, hv⟩ := v
  cases v <;> simp only [hasTy, Bool.false_eq_true] at hv
  rename_i vs
  exact ⟨toJsonTuple ts vs, by simp [toJson], toJsonTuple_length ts vs hv, shapeTuple_toJson ts vs hv⟩

/-- **Enum**: the variant's name or rename as a string. -/
theorem shape_enum (names : List Key) (i : Nat) (h : i < names.length) :
    toJson (.enum names) (.variant i) = .string names[i] := by
  rw [toJson, List.getElem_eq_getD []]

/-- every value of every type serialises to JSON of the documented shape, recursively -/
theorem shape_ok (ty : Ty) (v : Val ty) : shapeOk ty (toJson ty v.1) = true :=
  shapeOk_toJson ty v.1 v.2

/-- what `derive(IntoJson)` writes for a named struct, `json!({ "k": (to_json(&self.f)), … })`,
goes through the object muncher to exactly the object of the model -/
theorem to_json_named_derive (fs : List (Key × Ty)) (vs : List TVal) :
    expandJson [.group .brace (deriveToks (toJsonFields fs vs))] = some (toJson (.named fs) (.fields vs)) := by
  simp [expandJson, expandTok_brace, expandObject_deriveToks, toJson]

/-- the same for `json_map!`: `json!({ "k": (&self.f), … })` without a trailing comma -/
theorem to_json_named_json_map (fs : List (Key × Ty)) (vs : List TVal) :
    expandJson [.group .brace (mapToks (toJsonFields fs vs))] = some (toJson (.named fs) (.fields vs)) := by
  simp [expandJson, expandTok_brace, expandObject_mapToks, toJson]

/-- an enum arm `json!("name")` -/
theorem to_json_enum_macro (names : List Key) (i : Nat) :
    expandJson [(.lit (names.getD i []) : Tok Num)] = some (toJson (.enum names) (.variant i)) := by
  simp [expandJson, expandTok, toJson]

/-- a missing key reads as `Null`, so an `Option` field becomes `None` -/
theorem missing_key_reads_none (k : Key) (t : Ty) (fs : List (Key × Ty)) (ms : List (Key × Value Num))
    (h : findKey k ms = none) (xs : List TVal) (hx : fromJsonFields fs (.object ms) = .ok xs) :
    fromJsonFields ((k, .opt t) :: fs) (.object ms) = .ok (.none :: xs) := by
  simp [fromJsonFields, getKey, h, fromJson, hx]

end Humphrey.JsonTyped
