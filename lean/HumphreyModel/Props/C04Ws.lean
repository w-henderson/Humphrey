import HumphreyModel.Proofs.RouteWs
import HumphreyModel.Proofs.HttpReqParsed

/-!
# C04 (WebSocket half) — upgrade requests are routed by the same rule over the WebSocket routes

Model: `wsHandler` in `Model/Route.lean` (`call_websocket_handler` in `humphrey/src/app.rs`) and the
upgrade branch of `serveLoop` in `Model/Conn.lean` (`client_handler`). As in `Props/C04.lean` the
statements are over the glob *relation* `Glob` (C05's spec), carried across by
`wildcard_match_iff_glob`.

The selection rule of `wsHandler` is the one of `getHandler` (checked against the Rust code: both
functions have the same three-way fallback): first sub-application, in registration order, whose host
pattern matches the Host header; within it the first WebSocket route, in registration order, whose
pattern matches the path; the default sub-application when there is no Host header, no sub-application
matches, or the selected sub-application has no matching WebSocket route.

What differs from the HTTP side is the "matches nothing" case: an upgrade request that no WebSocket
route takes is NOT answered 404 (nor 400): nothing at all is written and the connection is dropped
(`Disposition.websocket false`), exactly as `call_websocket_handler` falls off its end and
`client_handler` then `break`s (`upgrade_dispatch`, `upgrade_unrouted_writes_nothing`).
-/
namespace Humphrey.Http
open Humphrey Humphrey.Glob

/-- **C04 (WebSocket routes), exact characterisation.** `wsHandler` returns `w` exactly when `w` is
the handler of the FIRST WebSocket route, in registration order, whose pattern matches the path,
within the first sub-application whose host pattern matches the Host header; or, when there is no
Host header, no sub-application matches it, or the selected sub-application has no matching WebSocket
route, of the first matching WebSocket route of the default sub-application. -/
theorem wsHandler_some_iff {κ ω : Type} (app : App κ ω) (host : Option (List Char))
    (path : List Char) (w : ω) :
    wsHandler app host path = some w ↔
      (∃ h s r, host = some h ∧ FirstHost app.subapps h s ∧ FirstWsRoute s.wsRoutes path r ∧ r.2 = w) ∨
      ((host = none ∨ (∃ h, host = some h ∧ NoHost app.subapps h) ∨
        (∃ h s, host = some h ∧ FirstHost app.subapps h s ∧ NoWsRoute s.wsRoutes path)) ∧
       ∃ r, FirstWsRoute app.default.wsRoutes path r ∧ r.2 = w) := by
  simp only [FirstHost, NoHost, FirstWsRoute, NoWsRoute, find?_wildcard_some_iff,
    find?_wildcard_none_iff]
  rw [wsHandler_eq, fallback_some_iff]
  simp only [Option.map_eq_some_iff, Option.map_eq_none_iff, exists_and_left]

/-- **No WebSocket handler is chosen** exactly when the default sub-application has no matching
WebSocket route and neither has the sub-application selected by the Host header (if any). -/
theorem wsHandler_none_iff {κ ω : Type} (app : App κ ω) (host : Option (List Char)) (path : List Char) :
    wsHandler app host path = none ↔
      NoWsRoute app.default.wsRoutes path ∧
      ∀ h s, host = some h → FirstHost app.subapps h s → NoWsRoute s.wsRoutes path := by
  simp only [FirstHost, NoWsRoute, find?_wildcard_some_iff, find?_wildcard_none_iff]
  rw [wsHandler_eq, fallback_none_iff]
  simp only [Option.map_eq_none_iff]

/-- `wsHandler` is a function, so (through `wsHandler_some_iff`) at most one handler satisfies the
right-hand side of the characterisation. -/
theorem wsHandler_choice_unique {κ ω : Type} (app : App κ ω) (host : Option (List Char))
    (path : List Char) (w w' : ω)
    (h : wsHandler app host path = some w) (h' : wsHandler app host path = some w') : w = w' := by
  rw [h] at h'; exact Option.some.inj h'

/-- **The connection step for an upgrade request.** When the next request on the connection parses
and carries `Upgrade: websocket` (the model's — and the code's — condition: the value compared
byte for byte), the loop stops: the connection is handed to exactly `wsHandler`'s result for the
request's Host header and path; nothing is written, no HTTP handler is called, and the unread bytes
are what the parser left. When `wsHandler` finds nothing the outcome is `websocket false`: the
connection is dropped without any response (no 404, no 400). -/
theorem upgrade_dispatch {σ κ ω : Type} (S : Source σ) (idle : σ → Option σ) (cfg : ConnCfg κ ω)
    (fuel : Nat) (s s' : σ) (req : Request) (w : List Bytes) (d : List Request)
    (hi : (if cfg.timeout then idle s else none) = none)
    (hp : parseRequest S cfg.env s = .ok (req, s'))
    (hu : req.headers.get hUpgrade = some websocketValue) :
    serveLoop S idle cfg (fuel + 1) s w d =
      ⟨w, d, wsHandler cfg.app ((req.headers.get hHost).map cfg.decode) (cfg.decode req.uri),
        .websocket (wsHandler cfg.app ((req.headers.get hHost).map cfg.decode) (cfg.decode req.uri)).isSome,
        s'⟩ := by
  simp [serveLoop, hi, hp, hu]

/-- An upgrade request is handed to the handler the characterisation names. -/
theorem upgrade_routed {σ κ ω : Type} (S : Source σ) (idle : σ → Option σ) (cfg : ConnCfg κ ω)
    (fuel : Nat) (s s' : σ) (req : Request) (w : List Bytes) (d : List Request) (h : ω)
    (hi : (if cfg.timeout then idle s else none) = none)
    (hp : parseRequest S cfg.env s = .ok (req, s'))
    (hu : req.headers.get hUpgrade = some websocketValue)
    (hw : wsHandler cfg.app ((req.headers.get hHost).map cfg.decode) (cfg.decode req.uri) = some h) :
    serveLoop S idle cfg (fuel + 1) s w d = ⟨w, d, some h, .websocket true, s'⟩ := by
  rw [upgrade_dispatch S idle cfg fuel s s' req w d hi hp hu, hw]; rfl

/-- An upgrade request that no WebSocket route takes: nothing is written (in particular no 404), no
handler of either kind runs, and the connection ends. -/
theorem upgrade_unrouted_writes_nothing {σ κ ω : Type} (S : Source σ) (idle : σ → Option σ)
    (cfg : ConnCfg κ ω) (fuel : Nat) (s s' : σ) (req : Request) (w : List Bytes) (d : List Request)
    (hi : (if cfg.timeout then idle s else none) = none)
    (hp : parseRequest S cfg.env s = .ok (req, s'))
    (hu : req.headers.get hUpgrade = some websocketValue)
    (hw : wsHandler cfg.app ((req.headers.get hHost).map cfg.decode) (cfg.decode req.uri) = none) :
    serveLoop S idle cfg (fuel + 1) s w d = ⟨w, d, none, .websocket false, s'⟩ := by
  rw [upgrade_dispatch S idle cfg fuel s s' req w d hi hp hu, hw]; rfl

/-- Conversely, a request without `Upgrade: websocket` never reaches a WebSocket route in its own
step: if the loop stops there (no keep-alive, or the handler panicked) the hand-off is `none`. -/
theorem non_upgrade_not_ws {σ κ ω : Type} (S : Source σ) (idle : σ → Option σ) (cfg : ConnCfg κ ω)
    (fuel : Nat) (s s' : σ) (req : Request) (w : List Bytes) (d : List Request)
    (hi : (if cfg.timeout then idle s else none) = none)
    (hp : parseRequest S cfg.env s = .ok (req, s'))
    (hu : req.headers.get hUpgrade ≠ some websocketValue)
    (hk : ∀ c, req.headers.get hConnection = some c → Bytes.asciiLower c ≠ keepAliveLower) :
    (serveLoop S idle cfg (fuel + 1) s w d).ws = none := by
  rw [serveLoop, hi]
  simp only [hp, if_neg hu]
  split
  · rfl
  · -- a response was written: the loop goes on only for `Connection: keep-alive`
    split
    · rename_i c hc
      rw [if_neg (by simpa using hk c hc)]
    · rfl

/-- **The query string never takes part** (upgrade requests included): the path of every request the
parser returns — on any source — contains no `?`; the query went to `req.query`, which `wsHandler`
(like `getHandler`) is never given. -/
theorem parsed_request_uri_has_no_query {σ : Type} (S : Source σ) (env : Env) (s : σ) (req : Request)
    (s' : σ) (h : parseRequest S env s = .ok (req, s')) : (63 : UInt8) ∉ req.uri := by
  obtain ⟨_, _, _, _, hsl, _⟩ := parseRequest_inv h
  obtain ⟨_, _, _, _, _, _, _, hq, _⟩ := parseStartLine_inv hsl
  exact hq

/-- The hand-off of an upgrade request is a function of its Host header and its path only: changing
the query (or the method, version, body, peer address) does not change it. -/
theorem upgrade_dispatch_ignores_query {σ κ ω : Type} (S : Source σ) (idle : σ → Option σ)
    (cfg : ConnCfg κ ω) (fuel₁ fuel₂ : Nat) (s₁ s₁' s₂ s₂' : σ) (req₁ req₂ : Request)
    (w₁ w₂ : List Bytes) (d₁ d₂ : List Request)
    (hi₁ : (if cfg.timeout then idle s₁ else none) = none)
    (hi₂ : (if cfg.timeout then idle s₂ else none) = none)
    (hp₁ : parseRequest S cfg.env s₁ = .ok (req₁, s₁'))
    (hp₂ : parseRequest S cfg.env s₂ = .ok (req₂, s₂'))
    (hu₁ : req₁.headers.get hUpgrade = some websocketValue)
    (hu₂ : req₂.headers.get hUpgrade = some websocketValue)
    (hhost : req₁.headers.get hHost = req₂.headers.get hHost) (huri : req₁.uri = req₂.uri) :
    (serveLoop S idle cfg (fuel₁ + 1) s₁ w₁ d₁).ws = (serveLoop S idle cfg (fuel₂ + 1) s₂ w₂ d₂).ws := by
  rw [upgrade_dispatch S idle cfg fuel₁ s₁ s₁' req₁ w₁ d₁ hi₁ hp₁ hu₁,
    upgrade_dispatch S idle cfg fuel₂ s₂ s₂' req₂ w₂ d₂ hi₂ hp₂ hu₂, hhost, huri]

/-! ## Non-vacuity -/

/-- Two hosts; the second WebSocket route of the first matching host wins over the default's. -/
def wsSampleApp : App Nat Nat :=
  ⟨[⟨['*', '.', 'e', 'x'], [], [(['/', 'a'], 1), (['/', '*'], 2)]⟩,
    ⟨['*'], [], [(['/', '*'], 5)]⟩],
   ⟨['*'], [], [(['/', 'w', '*'], 3)]⟩⟩

example : wsHandler wsSampleApp (some ['x', '.', 'e', 'x']) ['/', 'b'] = some 2 := by
  simp [wsHandler, wsSampleApp, wildcardMatch, matchNoStar, matchStar, allStars]

/-- The selected sub-app has no matching WebSocket route: fallback to the default application (NOT to
the next matching host, whose `/*` would give 5). -/
example : wsHandler
    (⟨[⟨['*', '.', 'e', 'x'], [], [(['/', 'a'], 1)]⟩, ⟨['*'], [], [(['/', '*'], 5)]⟩],
      ⟨['*'], [], [(['/', 'w', '*'], 3)]⟩⟩ : App Nat Nat)
    (some ['x', '.', 'e', 'x']) ['/', 'w', 's'] = some 3 := by
  simp [wsHandler, wildcardMatch, matchNoStar, matchStar, allStars]

/-- No Host header: the default application. -/
example : wsHandler wsSampleApp none ['/', 'w', 's'] = some 3 := by
  simp [wsHandler, wsSampleApp, wildcardMatch, matchNoStar, matchStar, allStars]

/-- Nothing matches: `none` (the connection is then dropped without a response). -/
example : wsHandler wsSampleApp none ['/', 'x'] = none := by
  simp [wsHandler, wsSampleApp, wildcardMatch, matchNoStar]

/-- The right-hand side of `wsHandler_some_iff` is inhabited through its first disjunct. -/
example : ∃ h s r, (some ['x', '.', 'e', 'x'] : Option (List Char)) = some h ∧
    FirstHost wsSampleApp.subapps h s ∧ FirstWsRoute s.wsRoutes ['/', 'b'] r ∧ r.2 = 2 := by
  have h : wsHandler wsSampleApp (some ['x', '.', 'e', 'x']) ['/', 'b'] = some 2 := by
    simp [wsHandler, wsSampleApp, wildcardMatch, matchNoStar, matchStar, allStars]
  rcases (wsHandler_some_iff _ _ _ _).mp h with h1 | ⟨_, r, hr, _⟩
  · exact h1
  · exfalso
    rw [FirstWsRoute, find?_wildcard_some_iff] at hr
    simp [wsSampleApp, wildcardMatch, matchNoStar] at hr

end Humphrey.Http
