import HumphreyModel.Proofs.RespSim
import HumphreyModel.Spec.HttpMsg
import HumphreyModel.Model.Client

/-!
# C07 — responses serialise to valid HTTP and parse back; the parser returns what was sent

Model: `Model/Response.lean`. Spec: `Spec/HttpMsg.lean` (strict message recogniser),
`Spec/Status.lean` (registered reason phrases). The status and header tables are regenerated
from the running code on every run (`Generated/Tables.lean`), so the table theorems below are
re-checked against what the code says now.

This file: the table theorems, segmentation independence of `Response::from_stream`, Set-Cookie, the
CRLF-pad witness and the client's redirect following. The serialiser against the strict recogniser
(`serialize_valid_partial`) and the parse-back theorems (`parse_serialize`, `chunked_decode`) are in
`Props/C07Roundtrip.lean`. The unrestricted `serialize_valid` (`checkSerialization … = none` for every
well-formed response) is false for non-empty bodies: a CRLF is appended after the body (pinned by the test
suite); known finding `crlf-after-body`, see `serialize_crlf_pad_witness` below.
-/
namespace Humphrey.Http
open Humphrey Humphrey.IO

/-! ## Table theorems (finite domain: all 65 536 codes were run through the code) -/

/-- `u16::from(StatusCode::try_from(c)) = c` for every code the running code accepts. -/
theorem status_roundtrip : ∀ row ∈ Generated.statusTable, row.2.1 = row.1 := by decide

/-- No two accepted codes coincide (each code denotes one status). -/
theorem status_codes_injective : (Generated.statusTable.map (·.1)).Nodup := by decide +kernel

/-- Every reason phrase the code emits is one registered for that code (RFC 2616 / 7231 / 9110). -/
theorem reason_phrase_registered :
    ∀ row ∈ Generated.statusTable, (Spec.phrasesFor row.1).contains (Bytes.asciiLower row.2.2) = true := by
  decide +kernel

/-- Every accepted code is a three-digit status code. -/
theorem status_codes_three_digits : ∀ row ∈ Generated.statusTable, 100 ≤ row.1 ∧ row.1 ≤ 599 := by decide

/-- Reason phrases are ASCII without CR/LF. -/
theorem reason_phrase_clean :
    ∀ row ∈ Generated.statusTable, ∀ b ∈ row.2.2, b ≠ 13 ∧ b ≠ 10 ∧ b < 128 := by decide +kernel

/-- Known header names are pairwise distinct. -/
theorem header_keys_distinct : (Generated.headerTable.map (·.1)).Nodup :=
  -- compared as base-256 numbers: the kernel is quick at `Nat`, slow at equality of byte lists
  List.Pairwise.of_map (S := (· ≠ ·)) (fun k : List UInt8 => k.foldl (fun a b => a * 256 + b.toNat) 0)
    (fun _ _ h e => h (congrArg _ e)) (by decide +kernel)

/-- **Segmentation independence of `Response::from_stream`**: for every byte stream (valid or not,
any framing, chunked included) and any two ways of cutting it into reads, the parser returns the
same response/error and leaves the same bytes unread. -/
theorem response_parse_segmentation_independent (c₁ c₂ : List Bytes) (h : c₁.flatten = c₂.flatten) :
    OutRel (fun r₁ r₂ : Reader => r₁.rest = r₂.rest)
      (parseResponse readerSource ⟨[], c₁⟩) (parseResponse readerSource ⟨[], c₂⟩) :=
  parseResponse_sim reader_reader_sim ⟨[], c₁⟩ ⟨[], c₂⟩ (by simp [Reader.rest, h])

/-- The optional attributes of a cookie in the fixed order Expires, Max-Age, Domain, Path, SameSite,
Secure, HttpOnly (`none` = absent). -/
def cookieOpts (c : SetCookie) : List (Option Bytes) :=
  [c.expires.map (([69, 120, 112, 105, 114, 101, 115, 61] : Bytes) ++ ·),
   c.maxAge.map (fun a => ([77, 97, 120, 45, 65, 103, 101, 61] : Bytes) ++ Bytes.natToBytes a),
   c.domain.map (([68, 111, 109, 97, 105, 110, 61] : Bytes) ++ ·),
   c.path.map (([80, 97, 116, 104, 61] : Bytes) ++ ·),
   c.sameSite.map (fun s => ([83, 97, 109, 101, 83, 105, 116, 101, 61] : Bytes) ++ s.name),
   (if c.secure then some [83, 101, 99, 117, 114, 101] else none),
   (if c.httpOnly then some [72, 116, 116, 112, 79, 110, 108, 121] else none)]

/-- Independent rendering of a cookie line: `name=value`, then each present attribute introduced
by `"; "`. -/
def cookieLine (c : SetCookie) : Bytes :=
  c.name ++ [61] ++ c.value ++ ((cookieOpts c).filterMap id).flatMap (([59, 32] : Bytes) ++ ·)

/-- Appending one more optional attribute to a rendered attribute list. -/
theorem cookieOpts_snoc (v : Bytes) (os : List (Option Bytes)) (o : Option Bytes) :
    (v ++ (os.filterMap id).flatMap (([59, 32] : Bytes) ++ ·)) ++
        ([o].filterMap id).flatMap (([59, 32] : Bytes) ++ ·) =
      v ++ ((os ++ [o]).filterMap id).flatMap (([59, 32] : Bytes) ++ ·) := by
  rw [List.filterMap_append, List.flatMap_append, List.append_assoc]

theorem cookieAttr_eq (v label : Bytes) (o : Option Bytes) :
    cookieAttr v label o = v ++ ([o.map (label ++ ·)].filterMap id).flatMap (([59, 32] : Bytes) ++ ·) := by
  cases o <;> simp [cookieAttr]

theorem cookieFlag_eq (v label : Bytes) (f : Bool) :
    cookieFlag v label f =
      v ++ ([if f then some label else none].filterMap id).flatMap (([59, 32] : Bytes) ++ ·) := by
  cases f <;> simp [cookieFlag]

/-- Every attribute subset renders as one `Set-Cookie` line: `name=value` followed by the present
attributes in the fixed order, each introduced by `"; "`. -/
theorem set_cookie_attributes (c : SetCookie) :
    c.toHeader.name = hSetCookie ∧ c.toHeader.value = cookieLine c := by
  refine ⟨rfl, ?_⟩
  -- `toHeader` appends the seven optional attributes one at a time; collect them into one list
  simp only [SetCookie.toHeader, cookieAttr_eq, cookieFlag_eq, cookieOpts_snoc, Option.map_map]
  rfl

/-! ## The CRLF pad (known finding) -/

/-- Witness for the known finding: a 200 response with body "x" serialises with two surplus bytes
after the body, so the message is not "status line, headers, blank line, body". -/
theorem serialize_crlf_pad_witness :
    serializeResponse ⟨[72, 84, 84, 80, 47, 49, 46, 49], 200, [], [120]⟩ =
      [72, 84, 84, 80, 47, 49, 46, 49, 32, 50, 48, 48, 32, 79, 75, 13, 10, 13, 10, 120, 13, 10] := by
  decide

/-- A redirect chain: `reqs[i]` is answered by a 301/302/307 whose Location leads to `reqs[i+1]`. -/
def RedirectChain (net : CReq → Option Response) : List CReq → CReq → Prop
  | [], _ => True
  | r :: rest, last =>
    ∃ resp l next, net r = some resp ∧ isRedirect resp.status = true ∧
      resp.headers.get hLocation = some l ∧ follow r l = some next ∧
      (match rest with | [] => next = last | r' :: _ => next = r') ∧ RedirectChain net rest last

/-- **With redirect following enabled the client ends at the final non-redirect response**: for a
chain of any length over {301, 302, 307} with relative or absolute Locations, `send` makes exactly
the chain's requests, in order, and returns the response to the last one. -/
theorem client_follows_redirects (net : CReq → Option Response) (chain : List CReq) (last : CReq)
    (final : Response) (first : CReq)
    (hfirst : first = (chain ++ [last]).head (by simp))
    (hchain : RedirectChain net chain last)
    (hfinal : net last = some final) (hnr : isRedirect final.status = false)
    (fuel : Nat) (hfuel : chain.length < fuel) :
    clientSend net true fuel first = (some final, chain ++ [last]) := by
  induction chain generalizing first fuel with
  | nil =>
    simp at hfirst; subst hfirst
    cases fuel with
    | zero => omega
    | succ fuel => simp [clientSend, hfinal, hnr]
  | cons r rest ih =>
    simp at hfirst; subst hfirst
    obtain ⟨resp, l, next, hn, hr, hl, hf, hnext, hrest⟩ := hchain
    cases fuel with
    | zero => simp at hfuel
    | succ fuel =>
      have hhead : next = (rest ++ [last]).head (by simp) := by
        cases rest with
        | nil => simpa using hnext
        | cons r' rs => simpa using hnext
      have := ih next hhead hrest fuel (by simp at hfuel; omega)
      simp [clientSend, hn, hr, hl, hf, this]

/-- Without redirect following the client returns the first response, whatever its status. -/
theorem no_follow_returns_first (net : CReq → Option Response) (r : CReq) (resp : Response) (fuel : Nat)
    (h : net r = some resp) : clientSend net false (fuel + 1) r = (some resp, [r]) := by
  simp [clientSend, h]

end Humphrey.Http
