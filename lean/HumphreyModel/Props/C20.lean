import HumphreyModel.Proofs.ShutdownLive
import HumphreyModel.Proofs.ShutdownTokio

/-!
# C20 — a shutdown signal always ends `run`, promptly, and frees the port

Property theorems only. Model: `Model/Shutdown.lean` (transition system of `App::run` in `humphrey/src/app.rs`:
the calling thread, the accept thread, the kernel's accept queue, arrivals and the signal at any time; the
thread pool is the C08 system `Model/Pool.lean`, embedded, not re-modelled; second, smaller system: the tokio
`select!` loop). Spec: `Spec/Shutdown.lean`. All theorems quantify over every reachable state / every
execution: any number of connections in any traffic state, arriving at any time, any pool size (a saturated
pool is just a pool state), the signal at any point, every interleaving of caller, accept thread, workers and
recovery thread.

What the model assumes and the proofs therefore do not show: the loop-back connect reaches the listener while
it is open; the kernel frees the port when the listener is dropped; wall-clock bounds ("promptly" is: a bounded
number of steps none of which waits for anything but the steps named here).
-/
namespace Humphrey.Shutdown
open ShutdownSpec

/-! ### Order: the flag is visible before the wake-up connection exists -/

/-- In every execution of `run` the flag store precedes the wake-up connection. -/
theorem flag_before_wakeup {c : Cfg} {ls : List Label} {s : State} (h : run c (init c) ls = some s) :
    FlagBeforeWakeup (ls.map evOf) :=
  precedes_of_run (.inl rfl) h

/-- State form: whenever the wake-up connection can be made, or is queued, or has just been accepted, the flag is
set — so the iteration that accepts it (or an earlier one) reads `true`. -/
theorem wakeup_sees_flag {c : Cfg} {s : State} (h : Reachable c s) :
    ((step c s .selfConnect).isSome = true → s.flag = true) ∧ (Entry.wake ∈ s.backlog → s.flag = true) ∧
      (s.acc = .checkFlag .wake → s.flag = true) := by
  have hi := Inv.of_reachable h
  refine ⟨fun hs => ?_, hi.wakeFlag, fun ha => ?_⟩
  · by_cases hc : s.caller = .selfConnect
    · exact hi.flag.mpr (.inl hc)
    · simp [step, hc] at hs
  · have := hi.acc; rw [ha] at this; exact this.2 rfl

/-! ### Until the signal the server serves -/

/-- As long as the signal has not been taken (in particular as long as it has not been sent) the accept thread
is in its loop, the port is open, the pool is started, and every connection accepted so far has been handed to
the pool, was refused by the connection condition / was an accept error, or is in the accept thread's hands right
now; every admitted connection has been handed to the pool or is about to be, and that `execute` is enabled
(it is a channel send, C08 `submit`: it cannot wait). -/
theorem serves_until_signal {c : Cfg} {s : State} (h : Reachable c s) (hw : s.caller = .waitSignal) :
    s.acc.inLoop = true ∧ s.listenerOpen = true ∧ s.pool.life = .started ∧ s.flag = false ∧ s.brokeOn = none ∧
    (∀ e, s.accepted.count e = (s.dispatched.map Prod.fst).count e + s.notServed.count e + handC s.acc e) ∧
    (∀ e, s.admitted.count e = (s.dispatched.map Prod.fst).count e + execC s.acc e) ∧
    (∀ e, s.acc = .execute e → (step c s .execute).isSome = true) := by
  have hi := Inv.of_reachable h
  have hcn := InvCount.of_reachable h
  have hf : s.flag = false := by
    cases hfl : s.flag with
    | false => rfl
    | true => have := hi.flag.mp hfl; simp [hw] at this
  have hloop : s.acc.inLoop = true := by
    cases hl : s.acc.inLoop with
    | true => rfl
    | false => have := hi.acc.flag hl; simp [hf] at this
  have hl := hi.acc.inLoop hloop
  refine ⟨hloop, hl.1, hl.2.1, hf, hl.2.2.2, fun e => ?_, fun e => ?_, fun e => execute_enabled hi⟩
  · rw [handC_eq]; have := hcn.acct e; simp only [hl.2.2.2, Option.toList_none, List.count_nil] at this; exact this
  · rw [execC_eq]; exact hcn.adm e

/-- The signal cannot have been taken before it was sent. -/
theorem not_sent_not_taken {c : Cfg} {s : State} (h : Reachable c s) (hs : s.signalSent = false) :
    s.caller = .waitSignal :=
  Decidable.byContradiction fun hc => by
    have := (Inv.of_reachable h).sig hc
    rw [hs] at this; cases this

/-! ### The accept loop exits -/

/-- From any reachable state — in particular from the moment the signal is taken — the accept thread performs at
most `|accept queue at that moment| + 1` further iterations, plus one for every connection that arrives before
the flag is stored (`lateArrivals`; arrivals after the store do not count, however many there are). -/
theorem accept_loop_exits {c : Cfg} {s s' : State} {ls : List Label} (h : Reachable c s) (hr : run c s ls = some s') :
    accepts ls ≤ s.backlog.length + 1 + lateArrivals c s ls := by
  have := run_acceptsLeft (Inv.of_reachable h) hr
  have hb := acceptsLeft_le s
  split at hb <;> omega

/-- Once the flag is stored: at most ONE more `accept` returns (the one that leads to `break`) and at most one
more connection — the one already past the flag check — is handed to the pool, whatever arrives. -/
theorem accept_loop_exits_flag_visible {c : Cfg} {s s' : State} {ls : List Label} (h : Reachable c s)
    (hf : s.flag = true) (hr : run c s ls = some s') : accepts ls ≤ 1 ∧ executes ls ≤ 1 := by
  have h1 := run_acceptsLeft (Inv.of_reachable h) hr
  have h2 := run_executesLeft hf hr
  rw [lateArrivals_zero ls s hf] at h1
  have hb := acceptsLeft_le s
  rw [if_pos hf] at hb
  have he : executesLeft s.acc ≤ 1 := by cases s.acc <;> simp [executesLeft]
  exact ⟨by omega, by omega⟩

/-- No iteration waits for anything: after `accept` has returned, the flag check, the connection condition
(HYPOTHESIS `hc`: it returns on every connection) and `execute` (C08 `submit`: only enqueues) are enabled
whenever the accept thread is at them. -/
theorem accept_iteration_never_blocks {c : Cfg} {s : State} (hc : ∀ e, c.condHangs e = false) (h : Reachable c s) :
    (∀ e, s.acc = .checkFlag e → (step c s (.checkFlag s.flag)).isSome = true) ∧
    (∀ e, s.acc = .condition e → (step c s (.cond true)).isSome = true ∧ (step c s (.cond false)).isSome = true) ∧
    (∀ e, s.acc = .execute e → (step c s .execute).isSome = true) := by
  refine ⟨fun e ha => ?_, fun e ha => by simp [step, ha, hc e], fun e => execute_enabled (Inv.of_reachable h)⟩
  cases hf : s.flag
  · by_cases he : e = .err <;> simp [step, ha, hf, he]
  · simp [step, ha, hf]

/-! ### `run` returns -/

/-- Every step other than a client's arrival strictly decreases `measure` (an arrival adds 20 to it). -/
theorem measure_decreases {c : Cfg} {s s' : State} {l : Label} (h : step c s l = some s') (hl : l.isArrive = false) :
    measure c s' < measure c s :=
  (measure_step (Step.of_step h)).1 hl

/-- Hence every execution with finitely many arrivals is finite: an execution from `s` with `k` arrivals has at
most `measure c s + 20 * k` other steps — whatever the workers are doing (C08's measure is a summand). -/
theorem executions_finite {c : Cfg} {s s' : State} {ls : List Label} (h : run c s ls = some s') :
    otherSteps ls ≤ measure c s + 20 * arrivals ls := by
  have := run_measure h; omega

/-- A maximal execution ends in a state where no step but an arrival is enabled (`Terminal`; the signal has then
been sent, for `signal` would be enabled otherwise). HYPOTHESES `hc`: the connection condition returns; `hn`: the
pool has at least one worker (C08 `terminal_all_done` needs one to drain the queue). Every such
state is the state after a complete shutdown: `run` has returned, the listener is dropped, the pool has been stopped
and dropped — and nothing handed to the pool was lost: every dispatched connection's task has finished or panicked
and every worker has left its loop (C08 `terminal_all_done`; the accept thread gets through `drop(thread_pool)` by
C08 `drop_never_blocks`). -/
theorem run_returns {c : Cfg} {s : State} (hc : ∀ e, c.condHangs e = false) (hn : 0 < c.pool.n)
    (h : Reachable c s) (hT : Terminal c s) : (endOf s).shutDown ∧ (endOf s).nothingLost := by
  have hi := Inv.of_reachable h
  obtain ⟨hret, hacc⟩ := terminal_final hc hi hT
  have hex : At s .exited := hacc ▸ hi.acc
  have hlife : s.pool.life = .dropped := (Pool.InvCaller.of_reachable hi.pool).dropped.mpr hex.2.2.2
  have hdone := Pool.terminal_all_done hn hi.pool (terminal_pool hT hex.2.2.2) hlife
  refine ⟨⟨by simp [endOf, hret], hex.2.1, hex.2.2.1, by simp [endOf, hlife]⟩, ?_, ?_⟩
  · simp only [endOf, unfinished, List.length_eq_zero_iff, List.filter_eq_nil_iff]
    intro x hx
    have := hdone.1 x.2 (hi.mem_submitted hx)
    simp only [Pool.viewOf] at this
    rcases this with hfin | hpan
    · simp [hfin]
    · simp [hpan]
  · have := hdone.2
    simp only [Pool.viewOf] at this
    simp [endOf, this]

/-- The driver's end-of-trace test `terminalB` (no candidate label is enabled) is `Terminal`. -/
theorem terminalB_iff_terminal {c : Cfg} {s : State} (h : Reachable c s) : terminalB c s = true ↔ Terminal c s :=
  terminalB_iff (Inv.of_reachable h)

/-- Without the hypothesis on the connection condition the theorem is false: a condition that hangs on a
connection stops the accept thread for good, and with it `run`. -/
example : ∃ s, Reachable { pool := ⟨1, fun _ => false⟩, condHangs := fun _ => true } s ∧ s.signalSent = true ∧
    s.caller = .joinAccept ∧ s.acc = .condition (.client 0 .justAccepted) ∧
    enabled { pool := ⟨1, fun _ => false⟩, condHangs := fun _ => true } s = [] :=
  ⟨_, ⟨[.arrive (.client 0 .justAccepted), .accept, .checkFlag false, .signal, .recvSignal, .storeFlag, .selfConnect,
        .worker (.reqLock 0), .worker (.lock 0)], rfl⟩, by decide +kernel, by decide +kernel, by decide +kernel,
    by decide +kernel⟩

/-! ### The shutdown path does not touch dispatched connections -/

/-- No step of the shutdown path (signal, the caller's four steps, `break`, `stop`, dropping the listener,
dropping the pool, the accept thread's exit) changes what any worker is doing or has done: the worker table, the
receiver's mutex, the logs of dequeued / started / finished / panicked tasks, the tasks waiting in the queue and the
table of dispatched connections are all unchanged. Workers are detached, never killed; `stop` only appends ONE
`Shutdown` message behind every queued task, `drop` only closes the channel's sending side. -/
theorem no_truncation_by_shutdown {c : Cfg} {s s' : State} {l : Label} (h : step c s l = some s')
    (hl : l.isShutdownPath = true) :
    s'.pool.workers = s.pool.workers ∧ s'.pool.rxLock = s.pool.rxLock ∧ s'.pool.dequeued = s.pool.dequeued ∧
    s'.pool.started = s.pool.started ∧ s'.pool.finished = s.pool.finished ∧ s'.pool.panicked = s.pool.panicked ∧
    Pool.queuedTasks s'.pool.queue = Pool.queuedTasks s.pool.queue ∧ s'.dispatched = s.dispatched := by
  cases Step.of_step h with
  | poolStop h1 h2 =>
    cases Pool.Step.of_step h2
    exact ⟨rfl, rfl, rfl, rfl, rfl, rfl, by simp [Pool.queuedTasks_append, Pool.taskOf], rfl⟩
  | poolDrop h1 h2 h3 => cases Pool.Step.of_step h3 <;> cases h2 <;> exact ⟨rfl, rfl, rfl, rfl, rfl, rfl, rfl, rfl⟩
  | arrive | accept | skipErr | toCond | letIn | deny | execute | worker => cases hl
  | _ => exact ⟨rfl, rfl, rfl, rfl, rfl, rfl, rfl, rfl⟩

/-- What happens to tasks still QUEUED when the pool is stopped and dropped: in every reachable state every queued
task is AHEAD of the `Shutdown` message (nothing is ever queued behind it), every dispatched connection's task is
accounted for — waiting in the queue, held by exactly one worker, finished or panicked (C08 `exactly_once`) — and
workers see `Shutdown` / the closed channel only after the queue has drained (mpsc delivers what is buffered before
it reports the disconnect: `Pool.step (.recv w)`). Together with `run_returns`: queued tasks are not dropped, they
run after `run` has returned — provided the process is still there; `run` does not wait for them. (In the third
part `senderAlive = false` only names the situation after the drop: `recv` on a non-empty queue takes its head
whether or not the sender is alive.) -/
theorem queued_tasks_survive_drop {c : Cfg} {s : State} (h : Reachable c s) :
    (∀ pre post, s.pool.queue = pre ++ Pool.Msg.shutdown :: post → post = []) ∧
    (∀ e k, (e, k) ∈ s.dispatched →
      k ∈ Pool.queuedTasks s.pool.queue ∨ k ∈ Pool.heldTasks s.pool.workers ∨ k ∈ s.pool.finished ∨ k ∈ s.pool.panicked) ∧
    (∀ w, s.pool.senderAlive = false → s.pool.queue ≠ [] → s.pool.workers[w]? = some .inRecv →
      ∃ m q p, s.pool.queue = m :: q ∧ Pool.step c.pool s.pool (.recv w) = some p ∧ p.workers[w]? = some (.got (some m))) := by
  have hi := Inv.of_reachable h
  have hpi := Pool.Inv.of_reachable hi.pool
  refine ⟨hpi.queue.wf, ?_, ?_⟩
  · intro e k hek
    -- a submitted task occurs once in the four places together (C08), hence in one of them
    have hpos := List.count_pos_iff.mpr (hi.mem_submitted hek)
    rw [← show _ = s.pool.submitted.count k from (Pool.exactly_once hi.pool).2.1 k] at hpos
    simpa only [Pool.viewOf, Nat.add_pos_iff_pos_or_pos, List.count_pos_iff, or_assoc] using hpos
  · intro w _ hq hw
    cases hqq : s.pool.queue with
    | nil => exact absurd hqq hq
    | cons m q =>
      refine ⟨m, q, { Pool.setW s.pool w (.got (some m)) with queue := q, dequeued := s.pool.dequeued ++ Pool.taskOf m },
        rfl, by simp [Pool.step, hw, hqq], ?_⟩
      have hlt : w < s.pool.workers.length := Pool.lt_of_getElem?_some hw
      simp [Pool.setW, hlt]

/-- The other side of the coin, stated so that nobody has to find it out: the connection the accept thread has in
its hands when it reads `true` is dropped unserved, and so is everything still in the accept queue when the
listener is dropped — even a client that connected before the signal was sent. (Those are not "requests received
before the signal": `accept` had not returned them. The harness sees them as connections closed without a byte.) -/
example : (run { pool := ⟨1, fun _ => false⟩ } (init { pool := ⟨1, fun _ => false⟩ })
    [.arrive (.client 0 .handlerShort), .arrive (.client 1 .handlerShort), .signal, .recvSignal, .storeFlag,
     .accept, .checkFlag true, .selfConnect, .poolStop, .dropListener]).map
      (fun s => (s.brokeOn, s.lostBacklog, s.dispatched))
    = some (some (.client 0 .handlerShort), [.client 1 .handlerShort, .wake], []) := by decide +kernel

/-! ### Non-vacuity: a complete run with two connections and the signal in between -/

def demoCfg : Cfg := { pool := ⟨1, fun _ => false⟩ }

/-- One worker. Client 0 (a long handler) is accepted and dispatched, its task starts; the signal is sent; client 1
arrives and is accepted and dispatched before the flag is stored (its task is QUEUED behind the running one: the pool
is saturated); the caller stores the flag and connects; the accept thread takes the wake-up connection, reads `true`,
stops the pool, drops listener and pool and ends; `run` returns while task 0 is still running and task 1 still
queued; afterwards the worker finishes 0, runs 1, takes `Shutdown`, leaves. -/
def demoTrace : List Label :=
  [.arrive (.client 0 .handlerLong), .accept, .checkFlag false, .cond true, .execute,
   .worker (.reqLock 0), .worker (.lock 0), .worker (.recv 0), .worker (.unlock 0), .worker (.run 0),
   .signal, .arrive (.client 1 .responseWriting), .recvSignal, .accept, .checkFlag false, .cond true, .execute,
   .storeFlag, .selfConnect, .accept, .checkFlag true, .poolStop, .dropListener,
   .poolDrop .dropBegin, .poolDrop .dropDetachRecovery, .poolDrop .dropDetach, .poolDrop .dropSender, .exit,
   .joinAccept,
   .worker (.finish 0), .worker (.reqLock 0), .worker (.lock 0), .worker (.recv 0), .worker (.unlock 0),
   .worker (.run 0), .worker (.finish 0), .worker (.reqLock 0), .worker (.lock 0), .worker (.recv 0),
   .worker (.unlock 0), .worker (.exit 0)]

example : (run demoCfg (init demoCfg) demoTrace).map (fun s => (s.caller, s.acc, s.listenerOpen, s.stopDone))
    = some (.returned, .exited, false, true) := by decide +kernel

example : (run demoCfg (init demoCfg) demoTrace).map (fun s => (s.pool.life, s.pool.finished, s.pool.workers))
    = some (.dropped, [0, 1], [.exited]) := by decide +kernel

example : (run demoCfg (init demoCfg) demoTrace).map (terminalB demoCfg) = some true := by decide +kernel

example : (run demoCfg (init demoCfg) demoTrace).map (fun s => (s.dispatched, s.brokeOn, unfinished s))
    = some ([(.client 0 .handlerLong, 0), (.client 1 .responseWriting, 1)], some .wake, 0) := by decide +kernel

/-- at the moment `run` returns (prefix up to `joinAccept`) task 0 is running and task 1 is still queued -/
example : (run demoCfg (init demoCfg) (demoTrace.take 29)).map
    (fun s => (s.caller, s.pool.workers, Pool.queuedTasks s.pool.queue, s.pool.queue))
    = some (.returned, [.running 0], [1], [.task 1, .shutdown]) := by decide +kernel

/-- `serves_until_signal` and `accept_loop_exits_flag_visible` have instances: before `recvSignal` the caller waits;
after `storeFlag` the flag is set -/
example : (run demoCfg (init demoCfg) (demoTrace.take 12)).map (fun s => (s.caller, s.signalSent, s.flag))
    = some (.waitSignal, true, false) := by decide +kernel
example : (run demoCfg (init demoCfg) (demoTrace.take 18)).map (fun s => (s.flag, s.backlog.length))
    = some (true, 0) := by decide +kernel

/-! ### The tokio loop (`select!` over `cancelled()` / `accept()`) -/

namespace Tokio

/-- Until the token is cancelled the loop is at `select!` or busy with a connection, and the port is open. -/
theorem tokio_serves_until_cancel {h : Entry → Bool} {s : State} (hr : Reachable h s) (hc : s.cancelled = false) :
    s.pc ≠ .dropListener ∧ s.pc ≠ .returned ∧ s.listenerOpen = true := by
  have hi := Inv.of_reachable hr
  have h1 : s.pc ≠ .dropListener := fun hp => by have := hi.left (Or.inl hp); simp [hc] at this
  have h2 : s.pc ≠ .returned := fun hp => by have := hi.left (Or.inr hp); simp [hc] at this
  refine ⟨h1, h2, ?_⟩
  cases hl : s.listenerOpen with
  | true => rfl
  | false => exact absurd (hi.closed.mp hl) h2

/-- Every step other than an arrival decreases the measure: executions with finitely many arrivals are finite.
(`select!` picks among ready branches at random, so connections that are already queued may still be taken after
the cancellation; each such iteration uses one up.) -/
theorem tokio_measure_decreases {h : Entry → Bool} {s s' : State} {l : Label} (hs : step h s l = some s')
    (hl : l.isArrive = false) : measure s' < measure s :=
  (measure_step (.of_step hs)).1 hl

/-- HYPOTHESIS `hc`: the connection condition returns. When nothing but an arrival can happen any more, `run` has
returned and the listener is dropped (spawned tasks belong to the runtime: the model says nothing about them). -/
theorem tokio_run_returns {h : Entry → Bool} {s : State} (hc : ∀ e, h e = false) (hr : Reachable h s)
    (hT : Terminal h s) : s.pc = .returned ∧ s.listenerOpen = false ∧ s.cancelled = true := by
  have hi := Inv.of_reachable hr
  have hp := terminal_returned hc hT
  exact ⟨hp, hi.closed.mpr hp, hi.left (Or.inr hp)⟩

/-- two connections, the cancellation in between; the second one is still taken (it was ready) -/
example : (run (fun _ => false) init
    [.arrive (.client 0 .handlerLong), .takeAccept, .cond true, .spawn, .arrive (.client 1 .handlerShort), .cancel,
     .takeAccept, .cond true, .spawn, .takeCancelled, .dropListener]).map
      (fun s => (s.pc, s.listenerOpen, s.spawned, enabled (fun _ => false) s))
    = some (.returned, false, [.client 0 .handlerLong, .client 1 .handlerShort], []) := by decide +kernel

end Tokio

end Humphrey.Shutdown
