import HumphreyModel.Proofs.Date
import HumphreyModel.Proofs.DateFormat

/-!
# C18 (HTTP dates) — every Unix timestamp of 1970 … 9999 formats to the correct weekday, day,
month, year and time in IMF-fixdate form

Property theorems only. Model: `Model/Date.lean` (`DateTime::from`, `to_string` of `date.rs`).
Spec: `Spec/Date.lean` (proleptic Gregorian calendar, weekday rule, RFC 7231 IMF-fixdate).
-/
namespace Humphrey.Date
open Humphrey.Date.Spec

/-- **C18, dates.** For every timestamp from 1970-01-01T00:00:00 to 9999-12-31T23:59:59 `from` does
not panic and yields a valid calendar date (month 0 = January) in the years 1970 … 9999 whose day
count since 1970-01-01 and time of day give back exactly the timestamp, with the weekday of that day. -/
theorem date_correct (t : Int) (h0 : 0 ≤ t) (h1 : t ≤ 253402300799) :
    ∃ d, DateTime.from t = some d ∧ d.timestamp = t ∧
      validDate d.year d.month d.day d.hour d.minute d.second d.weekday ∧
      daysFromCivil d.year d.month d.day * 86400 + d.hour * 3600 + d.minute * 60 + d.second = t ∧
      (d.weekday : Int) = weekdaySpec t ∧ 1970 ≤ d.year ∧ d.year ≤ 9999 := by
  obtain ⟨d, Y, hd, hts, hyr, hv, heq, hw⟩ := from_civil t (by rw [show MARCH_01_2000 = 951868800 from rfl]; omega)
  -- the year is in range because the day number is, so the cast to `u16` keeps it
  have hv' := hv
  unfold validDate at hv'
  have hY := year_range Y d.month d.day hv'.1 hv'.2.1 hv'.2.2.1 (by omega) (by omega)
  have hYc : (d.year : Int) = Y := hyr ▸ asU16_cast Y (by omega) (by omega)
  subst hYc
  exact ⟨d, hd, hts, hv, heq, hw, by omega, by omega⟩

/-- **C18, IMF-fixdate layout.** For fields in range (in particular a four-digit year) `to_string`
does not panic and is exactly `day-name "," SP 2DIGIT SP month SP 4DIGIT SP 2DIGIT ":" 2DIGIT ":" 2DIGIT SP
"GMT"` of RFC 7231 with the names of the RFC — 29 characters. -/
theorem imf_fixdate_format (d : DateTime) (hw : d.weekday < 7) (hm : d.month < 12) (hd : d.day < 100)
    (hy0 : 1000 ≤ d.year) (hy1 : d.year ≤ 9999) (hh : d.hour < 100) (hmi : d.minute < 100)
    (hs : d.second < 100) :
    d.toString = some (imfFixdate d.year d.month d.day d.hour d.minute d.second d.weekday) ∧
    (imfFixdate d.year d.month d.day d.hour d.minute d.second d.weekday).length = 29 := by
  obtain ⟨hmo, hpad, hmlen⟩ := months_table d.month hm
  constructor
  · unfold DateTime.toString
    rw [days_table d.weekday hw, hmo]
    simp only
    rw [pad02_eq_dec2 d.day hd, pad02_eq_dec2 d.hour hh, pad02_eq_dec2 d.minute hmi,
      pad02_eq_dec2 d.second hs, decimal_eq_dec4 d.year hy0 hy1, hpad]
    rfl
  · unfold imfFixdate dec2 dec4
    simp only [List.length_append, List.length_cons, List.length_nil, dayName_length d.weekday hw, hmlen]

/-- **C18, dates, end to end.** Every timestamp of 1970 … 9999 is rendered as the IMF-fixdate of the
calendar date, time and weekday that `date_correct` shows to be the right ones. -/
theorem date_to_string_correct (t : Int) (h0 : 0 ≤ t) (h1 : t ≤ 253402300799) :
    ∃ d, DateTime.from t = some d ∧
      d.toString = some (imfFixdate d.year d.month d.day d.hour d.minute d.second d.weekday) ∧
      (imfFixdate d.year d.month d.day d.hour d.minute d.second d.weekday).length = 29 := by
  obtain ⟨d, hd, _, hv, _, _, hy0, hy1⟩ := date_correct t h0 h1
  unfold validDate at hv
  have h31 := daysInMonth_range d.year d.month
  have := imf_fixdate_format d (by omega) (by omega) (by omega) (by omega) hy1 (by omega) (by omega) (by omega)
  exact ⟨d, hd, this⟩

/-! Non-vacuity and labelled tests: the epoch (the date the test suite pins), the last second of
9999 and a leap day. (`decimal` is defined by well-founded recursion, so the strings are evaluated
through `imf_fixdate_format`.) -/
example : (DateTime.from 0).bind DateTime.toString = some "Thu, 01 Jan 1970 00:00:00 GMT".toList := by
  have h : DateTime.from 0 = some ⟨0, 1970, 0, 1, 4, 0, 0, 0⟩ := by decide +kernel
  rw [h, Option.bind_some, (imf_fixdate_format _ (by decide) (by decide) (by decide) (by decide) (by decide)
    (by decide) (by decide) (by decide)).1, String.toList_ofList]
  decide +kernel
example : (DateTime.from 253402300799).bind DateTime.toString = some "Fri, 31 Dec 9999 23:59:59 GMT".toList := by
  have h : DateTime.from 253402300799 = some ⟨253402300799, 9999, 11, 31, 5, 23, 59, 59⟩ := by decide +kernel
  rw [h, Option.bind_some, (imf_fixdate_format _ (by decide) (by decide) (by decide) (by decide) (by decide)
    (by decide) (by decide) (by decide)).1, String.toList_ofList]
  decide +kernel
example : (DateTime.from 951782400).bind DateTime.toString = some "Tue, 29 Feb 2000 00:00:00 GMT".toList := by
  have h : DateTime.from 951782400 = some ⟨951782400, 2000, 1, 29, 2, 0, 0, 0⟩ := by decide +kernel
  rw [h, Option.bind_some, (imf_fixdate_format _ (by decide) (by decide) (by decide) (by decide) (by decide)
    (by decide) (by decide) (by decide)).1, String.toList_ofList]
  decide +kernel
example : daysFromCivil 2000 1 29 = 11016 ∧ weekdaySpec 951782400 = 2 := by decide

end Humphrey.Date
