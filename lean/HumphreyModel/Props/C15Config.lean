import HumphreyModel.Props.C15
import HumphreyModel.Proofs.ConfClean
import HumphreyModel.Proofs.ConfModelTotal
import HumphreyModel.Proofs.ConfModelReject
import HumphreyModel.Proofs.ConfModelLoad
import HumphreyModel.Proofs.ConfModelWF
import HumphreyModel.Proofs.ConfModelInclude
import HumphreyModel.Proofs.ConfModelList

/-!
# C15: text-level round trip, configuration-level round trip, direct rejection

Property theorems only (plus non-vacuity examples). Model: `Model/Conf.lean`. Specification:
`Spec/Conf.lean` (tree level: `renderTree`, `Layout`, `WFTree`, `WFLayout`) and `Spec/ConfModel.lean`
(configuration level: `Cfg`, `Cfg.toTree`, `Cfg.normalise`, `Cfg.WF`; vocabulary of the rejection
theorems: `KeyBad`, `KeyFine`, `NumbersFine`, `BlacklistFine`, `ScalarsFine`).
Helper lemmas: `Proofs/ConfClean.lean`, `Proofs/ConfModel*.lean`.

A. `parse_tree_roundtrip` — the tree-level round trip on the text. `WFTree`/`WFLayout` make every
   rendered line free of `\n` and of a trailing `\r` (`clean_renderLines`): a name is followed by `{`, a
   string value by its closing quotation mark, and a `\r` that is not last on its line is kept by
   `str::lines` (see the example with a value ending in `\r` below).
B. `load_render`, `load_config_roundtrip` — every field of `Config` and every route kind is
   generated. The result type `Res` has a `panic` outcome.
   Restrictions of the generating model (not of the theorems' strength over that model):
   * `include` is generated one level deep and in the body of the `server` section only
     (`Piece`, `renderWithIncludes`, theorems `parse_tree_roundtrip_includes` and
     `load_config_roundtrip_includes`): an included file that itself uses `include`, or an `include`
     line inside a sub-section, host or route, is not generated;
   * `Cfg.WF` states the blacklist as a hypothesis on the file system (the named list file loads as
     the model's addresses, `loadBlacklist fs (some path) = .ok ips`); `blacklist_file_loads`
     discharges it for generated list files (one dotted-quad IPv4 address per line, `blacklistText`);
     IPv6 addresses are not in the model (`parseIpv4` only), so they are not generated;
   * one fixed order of keys (address, port, threads, websocket, timeout, `blacklist {file mode}`,
     `log {level console file}`, `cache {size time}`, then routes and hosts mixed in any order), a
     sub-section is written once and only when it has a key; inside a route: target, balancer mode,
     websocket; hosts contain only routes;
   * strings are always quoted, numbers and booleans never; enumeration words in lower case;
     numbers are below 2^63 (what a number node can hold; the unit spelling `K/M/G` is the layout's);
   * the patterns of a route are joined by `,` without blanks around it.
   Layout (comments, blank lines, indentation, blanks, unit spelling) is arbitrary (`WFLayout`).
C. `fromTree_never_panics`, and "bad value ⇒ rejected" in the direct direction for every validated
   key in validation order, each under the minimal "earlier keys are fine" condition.
-/
namespace Humphrey.Conf

/-! ## A. tree level, on the text -/

/-- **Round trip on the text.** Every well-formed tree, written with any well-formed layout, is
read back from the text as itself. -/
theorem parse_tree_roundtrip (fs : FS) (file : Str) (tree : Node) (lay : Layout) (hw : WFTree tree)
    (hl : WFLayout lay) : parseConf fs (renderTree tree lay) file = .ok tree := by
  cases tree with
  | «section» name cs =>
    obtain rfl : name = "server".toList := hw.1
    exact parse_tree_roundtrip_partial fs file lay hl cs hw (clean_renderLines lay hl cs hw.2.1)
  | _ => exact hw.elim

/-- Non-vacuity: a string value that *ends* in a carriage return is a well-formed tree (the closing
quotation mark, not the `\r`, ends its line), so it is read back with its `\r`. -/
example : WFTree (.section "server".toList [.string ['a'] ['x', '\r']]) := by
  refine ⟨rfl, ⟨⟨?_, ?_⟩, trivial⟩, by decide⟩
  · exact cfgrt_okKey (by decide)
  · unfold noHashNl; decide

example (fs : FS) (file : Str) :
    parseConf fs (renderTree (.section "server".toList [.string ['a'] ['x', '\r']]) plainLayout) file =
      .ok (.section "server".toList [.string ['a'] ['x', '\r']]) :=
  parse_tree_roundtrip fs file _ _
    ⟨rfl, ⟨⟨cfgrt_okKey (by decide), by unfold noHashNl; decide⟩, trivial⟩, by decide⟩ plainLayout_ok

/-! ## B. configuration level -/

/-- **`from_tree` on the tree of a model gives the model**, hosts and routes in file order, omitted
keys at the `from_tree` defaults. -/
theorem load_render (fs : FS) (c : Cfg) (hc : c.WF fs) : fromTree fs c.toTree = .ok c.normalise := by
  have lt64 : ∀ {n}, n < 2 ^ 63 → n < 2 ^ 64 := fun h => Nat.lt_trans h (by decide)
  -- `i` is the position of the key in `cfgrt_entries` (last written first): 0 cache.time, 1 cache.size,
  -- 2 log.file, 3 log.console, 4 log.level, 5 blacklist.mode, 6 blacklist.file, 7 timeout, 8 websocket,
  -- 9 threads, 10 port, 11 address
  have hport := cfgrt_gop (cfgrt_get_toTree c (i := 10) rfl) (parseUnsigned 16)
    (fun n hn => parseUnsigned_showNat (hc.port n hn)) 80 CfgErr.port
  have hthreads := cfgrt_gop (cfgrt_get_toTree c (i := 9) rfl) (parseUnsigned 64)
    (fun n hn => parseUnsigned_showNat (lt64 (hc.threads n hn).2)) 32 CfgErr.threads
  have htimeout := cfgrt_gop (cfgrt_get_toTree c (i := 7) rfl) (parseUnsigned 64)
    (fun n hn => parseUnsigned_showNat (lt64 (hc.timeout n hn))) 0 CfgErr.timeout
  have hlevel := cfgrt_gop (cfgrt_get_toTree c (i := 4) rfl) parseLogLevel
    (fun l _ => cfgrt_parseLogLevel_text l) LogLevel.warn CfgErr.logLevel
  have hconsole := cfgrt_gop (cfgrt_get_toTree c (i := 3) rfl) parseBool
    (fun b _ => cfgrt_parseBool_text b) true CfgErr.logConsole
  have hsize := cfgrt_gop (cfgrt_get_toTree c (i := 1) rfl) (parseUnsigned 64)
    (fun n hn => parseUnsigned_showNat (lt64 (hc.cacheSize n hn))) 0 CfgErr.cacheSize
  have htime := cfgrt_gop (cfgrt_get_toTree c (i := 0) rfl) (parseUnsigned 64)
    (fun n hn => parseUnsigned_showNat (lt64 (hc.cacheTime n hn))) 0 CfgErr.cacheTime
  have haddr := cfgrt_getOwned (cfgrt_get_toTree c (i := 11) rfl) (text := id) fun _ => rfl
  have hws := cfgrt_getOwned (cfgrt_get_toTree c (i := 8) rfl) (text := id) fun _ => rfl
  have hlogfile := cfgrt_getOwned (cfgrt_get_toTree c (i := 2) rfl) (text := id) fun _ => rfl
  have hblfile := cfgrt_getOwned (cfgrt_get_toTree c (i := 6) rfl) (text := (·.1)) fun _ => rfl
  have hmode := cfgrt_mode (cfgrt_getOwned (cfgrt_get_toTree c (i := 5) rfl) fun _ => rfl)
  have hpos : ¬ c.threads.getD 32 < 1 := by
    cases ht : c.threads with
    | none => decide
    | some t => exact Nat.not_lt.mpr (hc.threads t ht).1
  have hbl : loadBlacklist fs (c.blacklist.map (·.1)) =
      .ok (match c.blacklist with | some (_, ips) => ips | none => []) := by
    cases hb : c.blacklist with
    | none => rfl
    | some pi => exact (hc.blacklist pi.1 pi.2 hb).2
  unfold fromTree
  simp only [hport, hthreads, htimeout, if_neg hpos, hblfile, hbl, hmode, hlevel, hconsole,
    hsize, htime, (cfgrt_parse_children c hc.items).1, (cfgrt_parse_children c hc.items).2, hws, hlogfile,
    Option.map_id_apply]
  rw [getOptional, haddr, Option.map_id_apply, Cfg.normalise]
  cases c.timeout <;> rfl

/-- The tree of a well-formed model is a tree of the documented syntax. -/
theorem toTree_wellformed (fs : FS) (c : Cfg) (hc : c.WF fs) : WFTree c.toTree :=
  -- the scalar keys nest 1 deep (`blacklist`, `log`, `cache`), routes inside hosts 2 deep; `cfgrt_WFd maxDepth`
  -- is, unfolded, the rest of `WFTree`
  ⟨rfl, (((cfgrt_wf_scalarNodes hc).mono (by decide)).append (cfgrt_wf_itemNodes hc.items)).mono (by decide)⟩

/-- **A configuration file is loaded into exactly the configuration it describes**: the text of
any well-formed model under any well-formed layout (comments, blank lines, indentation, blanks,
unit spelling of sizes) loads (`parse_conf` then `Config::from_tree`, the body of `Config::load`)
into the normalised model. -/
theorem load_config_roundtrip (fs : FS) (file : Str) (c : Cfg) (lay : Layout) (hc : c.WF fs)
    (hl : WFLayout lay) : load fs (renderTree c.toTree lay) file = .ok c.normalise := by
  unfold load
  rw [parse_tree_roundtrip fs file c.toTree lay (toTree_wellformed fs c hc) hl]
  simp only [load_render fs c hc]

/-- Layout independence at configuration level. -/
theorem load_layout_irrelevant (fs : FS) (file : Str) (c : Cfg) (lay₁ lay₂ : Layout) (hc : c.WF fs)
    (h₁ : WFLayout lay₁) (h₂ : WFLayout lay₂) :
    load fs (renderTree c.toTree lay₁) file = load fs (renderTree c.toTree lay₂) file := by
  rw [load_config_roundtrip fs file c lay₁ hc h₁, load_config_roundtrip fs file c lay₂ hc h₂]

/-- **The blacklist list file**: a file with one dotted-quad address per line loads as exactly
those addresses, in order (this is the hypothesis `Cfg.WF.blacklist` for a generated list file). -/
theorem blacklist_file_loads (fs : FS) (p : Str) (ips : List Ip4) (h : ∀ i ∈ ips, i.ok)
    (hfs : fs p = .text (blacklistText ips)) : loadBlacklist fs (some p) = .ok (ips.map Ip4.text) := by
  have hl : splitLines (blacklistText ips) = ips.map Ip4.text := by
    unfold blacklistText
    cases ips with
    | nil => rfl
    | cons i ips =>
      apply splitLines_joinLines
      · simp
      · intro l hl
        obtain ⟨j, _, rfl⟩ := List.mem_map.mp hl
        exact clean_of_all (cfgrt_ip_text_clean j).1
      · intro e
        obtain ⟨j, _, hj⟩ := List.mem_map.mp (List.mem_of_getLast? e)
        exact (cfgrt_ip_text_clean j).2 hj
  unfold loadBlacklist
  simp only [hfs, hl, cfgrt_parseIps_texts ips h]

/-! ### files that use `include` -/

/-- **Round trip with includes** (tree level, on the text): a main file whose `server` section is
made of pieces — nodes written in place and `include "path"` lines, the named files holding the
rendering (under layouts of their own) of further nodes — is read back as the `server` section
with all those nodes in order. -/
theorem parse_tree_roundtrip_includes (fs : FS) (file : Str) (lay : Layout) (hl : WFLayout lay)
    (ps : List Piece) (hwf : ∀ p ∈ ps, p.WF fs) :
    parseConf fs (renderWithIncludes lay ps) file = .ok (.section "server".toList (piecesDenote ps)) := by
  have hclean : ∀ l ∈ piecesLines lay ps, lineClean l :=
    clean_block (hl []).1 (hl []).2 contentOk_server (cfgrt_clean_pieces fs lay hl ps hwf 0)
  unfold parseConf renderWithIncludes
  rw [show splitLines (joinLines (piecesLines lay ps)) = piecesLines lay ps from
    splitLines_closed (lay.close []) hclean]
  exact cfgrt_parseConfLines_pieces fs file lay hl ps hwf

/-- **Configuration level with includes**: however the children of a model's tree are distributed
over the main file and included files, loading the main file gives the normalised model. -/
theorem load_config_roundtrip_includes (fs : FS) (file : Str) (c : Cfg) (lay : Layout) (hc : c.WF fs)
    (hl : WFLayout lay) (ps : List Piece) (hwf : ∀ p ∈ ps, p.WF fs) (hsplit : piecesDenote ps = c.children) :
    load fs (renderWithIncludes lay ps) file = .ok c.normalise := by
  unfold load
  rw [parse_tree_roundtrip_includes fs file lay hl ps hwf, hsplit]
  have := load_render fs c hc
  unfold Cfg.toTree at this
  simp only [this]

/-! ## C. `from_tree`: no panic; a bad value is rejected with its own error

Validation order of `Config::from_tree`: port, threads, timeout, threads ≠ 0, blacklist file,
blacklist mode, log level, log console, cache size, cache time, routes of the default host, hosts. -/

/-- `Config::from_tree` never panics, on any tree (the `unwrap`s of `parse_route` are guarded by
`contains_key`, and `flatten` only binds scalar nodes). -/
theorem fromTree_never_panics (fs : FS) (tree : Node) : fromTree fs tree ≠ .panic := by
  fun_cases fromTree fs tree
  -- the stages that could hand on a panic: the typed getters, the blacklist, the routes, the hosts
  case case2 h | case4 h | case6 h | case12 h | case14 h | case16 h | case18 h =>
    exact absurd h (cfgrt_getOptionalParsed_ne_panic _ _ _ _ _)
  case case9 h => exact absurd h (cfgrt_loadBlacklist_ne_panic _ _)
  case case20 h => exact absurd h (cfgrt_parseRoutes_ne_panic _)
  case case22 h => exact absurd h (cfgrt_parseHosts_ne_panic _)
  all_goals nofun

/-- … hence loading a file never panics either. -/
theorem load_never_panics (fs : FS) (conf file : Str) : load fs conf file ≠ .panic := by
  fun_cases load fs conf file
  case case2 h => exact absurd h (conf_never_panics fs conf file)
  case case5 h => exact absurd h (fromTree_never_panics fs _)
  all_goals nofun

/-- `server.port` present with a text that is not a `u16`: rejected (nothing is checked before). -/
theorem bad_port_rejected (fs : FS) (tree : Node)
    (h : KeyBad (flattenNode [] tree []) (k "server.port") (parseUnsigned 16)) :
    fromTree fs tree = .err .port := by
  unfold fromTree
  simp only [cfgrt_gop_bad h]

/-- `server.threads` not a `usize`, the port being fine. -/
theorem bad_threads_rejected (fs : FS) (tree : Node)
    (hport : KeyFine (flattenNode [] tree []) (k "server.port") (parseUnsigned 16))
    (h : KeyBad (flattenNode [] tree []) (k "server.threads") (parseUnsigned 64)) :
    fromTree fs tree = .err .threads := by
  obtain ⟨p, hp, _⟩ := cfgrt_gop_fine hport 80 CfgErr.port
  unfold fromTree
  simp only [hp, cfgrt_gop_bad h]

/-- `server.timeout` not a `u64`, port and threads being fine. -/
theorem bad_timeout_rejected (fs : FS) (tree : Node)
    (hport : KeyFine (flattenNode [] tree []) (k "server.port") (parseUnsigned 16))
    (hthreads : KeyFine (flattenNode [] tree []) (k "server.threads") (parseUnsigned 64))
    (h : KeyBad (flattenNode [] tree []) (k "server.timeout") (parseUnsigned 64)) :
    fromTree fs tree = .err .timeout := by
  obtain ⟨p, hp, _⟩ := cfgrt_gop_fine hport 80 CfgErr.port
  obtain ⟨t, ht, _⟩ := cfgrt_gop_fine hthreads 32 CfgErr.threads
  unfold fromTree
  simp only [hp, ht, cfgrt_gop_bad h]

/-- `server.threads` present and equal to zero (`0`, `+0`, `000`, …), port and timeout being fine. -/
theorem zero_threads_rejected (fs : FS) (tree : Node) (n : Node)
    (hport : KeyFine (flattenNode [] tree []) (k "server.port") (parseUnsigned 16))
    (htimeout : KeyFine (flattenNode [] tree []) (k "server.timeout") (parseUnsigned 64))
    (hg : (flattenNode [] tree []).get (k "server.threads") = some n)
    (h0 : n.scalar.bind (parseUnsigned 64) = some 0) :
    fromTree fs tree = .err .threadsZero := by
  obtain ⟨p, hp, _⟩ := cfgrt_gop_fine hport 80 CfgErr.port
  obtain ⟨to, hto, _⟩ := cfgrt_gop_fine htimeout 0 CfgErr.timeout
  have ht : getOptionalParsed (flattenNode [] tree []) (k "server.threads") 32 (parseUnsigned 64)
      CfgErr.threads = .ok 0 := by
    simp only [getOptionalParsed, hg, h0]
  unfold fromTree
  simp only [hp, ht, hto, Nat.lt_one_iff, if_true]

/-- The blacklist file cannot be opened / read / holds a line that is not an address (`e` is the
error of `loadBlacklist`), the numeric keys being fine. -/
theorem bad_blacklist_file_rejected (fs : FS) (tree : Node) (e : CfgErr)
    (hnum : NumbersFine (flattenNode [] tree []))
    (h : loadBlacklist fs (getOwned (flattenNode [] tree []) (k "server.blacklist.file")) = .err e) :
    fromTree fs tree = .err e := by
  obtain ⟨p, t, to, hp, ht, hto, hpos⟩ := cfgrt_numbers hnum
  unfold fromTree
  simp only [hp, ht, hto, if_neg hpos, h]

/-- `server.blacklist.mode` neither `block` nor `forbidden`, numeric keys fine, list file loading. -/
theorem bad_blacklist_mode_rejected (fs : FS) (tree : Node)
    (hnum : NumbersFine (flattenNode [] tree []))
    (hload : ∃ l, loadBlacklist fs (getOwned (flattenNode [] tree []) (k "server.blacklist.file")) = .ok l)
    (h1 : getOptional (flattenNode [] tree []) (k "server.blacklist.mode") (k "block") ≠ k "block")
    (h2 : getOptional (flattenNode [] tree []) (k "server.blacklist.mode") (k "block") ≠ k "forbidden") :
    fromTree fs tree = .err .blacklistMode := by
  obtain ⟨p, t, to, hp, ht, hto, hpos⟩ := cfgrt_numbers hnum
  obtain ⟨l, hl⟩ := hload
  unfold fromTree
  simp only [hp, ht, hto, if_neg hpos, hl, if_neg h1, if_neg h2]

/-- `server.log.level` not one of the four levels. -/
theorem bad_log_level_rejected (fs : FS) (tree : Node)
    (hnum : NumbersFine (flattenNode [] tree []))
    (hbl : BlacklistFine fs (flattenNode [] tree []))
    (h : KeyBad (flattenNode [] tree []) (k "server.log.level") parseLogLevel) :
    fromTree fs tree = .err .logLevel := by
  obtain ⟨p, t, to, hp, ht, hto, hpos⟩ := cfgrt_numbers hnum
  obtain ⟨l, mode, hl, hm⟩ := cfgrt_blacklist hbl
  unfold fromTree
  simp only [hp, ht, hto, if_neg hpos, hl, hm, cfgrt_gop_bad h]

/-- `server.log.console` not `true`/`false`. -/
theorem bad_log_console_rejected (fs : FS) (tree : Node)
    (hnum : NumbersFine (flattenNode [] tree []))
    (hbl : BlacklistFine fs (flattenNode [] tree []))
    (hlevel : KeyFine (flattenNode [] tree []) (k "server.log.level") parseLogLevel)
    (h : KeyBad (flattenNode [] tree []) (k "server.log.console") parseBool) :
    fromTree fs tree = .err .logConsole := by
  obtain ⟨p, t, to, hp, ht, hto, hpos⟩ := cfgrt_numbers hnum
  obtain ⟨l, mode, hl, hm⟩ := cfgrt_blacklist hbl
  obtain ⟨lv, hlv, _⟩ := cfgrt_gop_fine hlevel LogLevel.warn CfgErr.logLevel
  unfold fromTree
  simp only [hp, ht, hto, if_neg hpos, hl, hm, hlv, cfgrt_gop_bad h]

/-- `server.cache.size` not a `usize`. -/
theorem bad_cache_size_rejected (fs : FS) (tree : Node)
    (hnum : NumbersFine (flattenNode [] tree []))
    (hbl : BlacklistFine fs (flattenNode [] tree []))
    (hlevel : KeyFine (flattenNode [] tree []) (k "server.log.level") parseLogLevel)
    (hconsole : KeyFine (flattenNode [] tree []) (k "server.log.console") parseBool)
    (h : KeyBad (flattenNode [] tree []) (k "server.cache.size") (parseUnsigned 64)) :
    fromTree fs tree = .err .cacheSize := by
  obtain ⟨p, t, to, hp, ht, hto, hpos⟩ := cfgrt_numbers hnum
  obtain ⟨l, mode, hl, hm⟩ := cfgrt_blacklist hbl
  obtain ⟨lv, hlv, _⟩ := cfgrt_gop_fine hlevel LogLevel.warn CfgErr.logLevel
  obtain ⟨cn, hcn, _⟩ := cfgrt_gop_fine hconsole true CfgErr.logConsole
  unfold fromTree
  simp only [hp, ht, hto, if_neg hpos, hl, hm, hlv, hcn, cfgrt_gop_bad h]

/-- `server.cache.time` not a `usize`. -/
theorem bad_cache_time_rejected (fs : FS) (tree : Node)
    (hnum : NumbersFine (flattenNode [] tree []))
    (hbl : BlacklistFine fs (flattenNode [] tree []))
    (hlevel : KeyFine (flattenNode [] tree []) (k "server.log.level") parseLogLevel)
    (hconsole : KeyFine (flattenNode [] tree []) (k "server.log.console") parseBool)
    (hsize : KeyFine (flattenNode [] tree []) (k "server.cache.size") (parseUnsigned 64))
    (h : KeyBad (flattenNode [] tree []) (k "server.cache.time") (parseUnsigned 64)) :
    fromTree fs tree = .err .cacheTime := by
  obtain ⟨p, t, to, hp, ht, hto, hpos⟩ := cfgrt_numbers hnum
  obtain ⟨l, mode, hl, hm⟩ := cfgrt_blacklist hbl
  obtain ⟨lv, hlv, _⟩ := cfgrt_gop_fine hlevel LogLevel.warn CfgErr.logLevel
  obtain ⟨cn, hcn, _⟩ := cfgrt_gop_fine hconsole true CfgErr.logConsole
  obtain ⟨sz, hsz, _⟩ := cfgrt_gop_fine hsize 0 CfgErr.cacheSize
  unfold fromTree
  simp only [hp, ht, hto, if_neg hpos, hl, hm, hlv, hcn, hsz, cfgrt_gop_bad h]

/-- A faulty route of the default host (error `e` of `parse_route`), anywhere among the children of
the `server` section, the routes before it and all scalar keys being fine. -/
theorem bad_route_rejected (fs : FS) (name wild : Str) (pre rest inner : List Node) (e : CfgErr)
    (hs : ScalarsFine fs (flattenNode [] (.section name (pre ++ .route wild inner :: rest)) []))
    (hpre : ∃ rs, parseRoutes pre = .ok rs)
    (h : parseRoute wild (flattenList [] inner []) = .err e) :
    fromTree fs (.section name (pre ++ .route wild inner :: rest)) = .err e :=
  cfgrt_bad_items hs (.inl (parseRoutes_err_at hpre h))

/-- A faulty route inside a host section, the default host's routes, the hosts before it, the routes
before it in its host and all scalar keys being fine. -/
theorem bad_host_route_rejected (fs : FS) (name hname wild : Str) (pre rest hpre hrest inner : List Node)
    (e : CfgErr)
    (hs : ScalarsFine fs
      (flattenNode [] (.section name (pre ++ .host hname (hpre ++ .route wild inner :: hrest) :: rest)) []))
    (hdef : ∃ rs, parseRoutes (pre ++ .host hname (hpre ++ .route wild inner :: hrest) :: rest) = .ok rs)
    (hhosts : ∃ hs, parseHosts pre = .ok hs)
    (hroutes : ∃ rs, parseRoutes hpre = .ok rs)
    (h : parseRoute wild (flattenList [] inner []) = .err e) :
    fromTree fs (.section name (pre ++ .host hname (hpre ++ .route wild inner :: hrest) :: rest)) = .err e := by
  obtain ⟨rs, hrs⟩ := hdef
  exact cfgrt_bad_items hs (.inr ⟨rs, hrs, parseHosts_err_at hhosts (parseRoutes_err_at hroutes h)⟩)

/-- A bad balancer mode, at whole-configuration level: a proxy route of the
default host whose `load_balancer_mode` is neither `round-robin` nor `random`. -/
theorem bad_balancer_mode_rejected (fs : FS) (name wild : Str) (pre rest inner : List Node) (n : Node)
    (t : Str)
    (hs : ScalarsFine fs (flattenNode [] (.section name (pre ++ .route wild inner :: rest)) []))
    (hpre : ∃ rs, parseRoutes pre = .ok rs)
    (h1 : (flattenList [] inner []).get "file".toList = none)
    (h2 : (flattenList [] inner []).get "directory".toList = none)
    (h3 : (flattenList [] inner []).get "proxy".toList = some n) (ht : n.getString = some t)
    (hm1 : getOptional (flattenList [] inner []) "load_balancer_mode".toList "round-robin".toList ≠
      "round-robin".toList)
    (hm2 : getOptional (flattenList [] inner []) "load_balancer_mode".toList "round-robin".toList ≠
      "random".toList) :
    fromTree fs (.section name (pre ++ .route wild inner :: rest)) = .err .lbMode :=
  bad_route_rejected fs name wild pre rest inner _ hs hpre
    (bad_balancer_mode_rejected_partial wild _ n t h1 h2 h3 ht hm1 hm2)

/-- `route_without_target_rejected`, at whole-configuration level (default host). -/
theorem route_without_target_rejected (fs : FS) (name wild : Str) (pre rest inner : List Node)
    (hs : ScalarsFine fs (flattenNode [] (.section name (pre ++ .route wild inner :: rest)) []))
    (hpre : ∃ rs, parseRoutes pre = .ok rs)
    (h1 : (flattenList [] inner []).get "file".toList = none)
    (h2 : (flattenList [] inner []).get "directory".toList = none)
    (h3 : (flattenList [] inner []).get "proxy".toList = none)
    (h4 : (flattenList [] inner []).get "redirect".toList = none)
    (h5 : (flattenList [] inner []).get "websocket".toList = none) :
    fromTree fs (.section name (pre ++ .route wild inner :: rest)) = .err .routeTarget :=
  bad_route_rejected fs name wild pre rest inner _ hs hpre
    (route_without_target_rejected_partial wild _ h1 h2 h3 h4 h5)

/-- A rejected tree is a rejected file: the validation error of `from_tree` is what `load` returns. -/
theorem load_rejects_invalid (fs : FS) (conf file : Str) (tree : Node) (e : CfgErr)
    (hp : parseConf fs conf file = .ok tree) (h : fromTree fs tree = .err e) :
    load fs conf file = .err (.invalid e) := by
  simp [load, hp, h]

/-! ## non-vacuity -/

/-- A file system with one includable file, holding a route, and a main file that includes it
between two keys: the three nodes come back in order. -/
example (file : Str) :
    let inner : List Node := [.route ['/', '*'] [.string ['f', 'i', 'l', 'e'] ['x']]]
    let fs : FS := fun p => if p = ['r', '.', 'c'] then .text (includedText plainLayout inner) else .missing
    parseConf fs (renderWithIncludes plainLayout
        [.nodes [.number ['p', 'o', 'r', 't'] ['8', '0']], .incl ['r', '.', 'c'] plainLayout inner,
         .nodes [.boolean ['x'] "true".toList]]) file =
      .ok (.section "server".toList
        ([.number ['p', 'o', 'r', 't'] ['8', '0']] ++ inner ++ [.boolean ['x'] "true".toList])) := by
  intro inner fs
  have hk1 : okKey ['p', 'o', 'r', 't'] := cfgrt_okKey (by decide)
  have hk2 : okKey ['x'] := cfgrt_okKey (by decide)
  have hk3 : okKey ['f', 'i', 'l', 'e'] := cfgrt_okKey (by decide)
  have hr : okRouteName ['/', '*'] :=
    ⟨by unfold noHashNl; decide, ⟨⟨'/', rfl, by decide⟩, ⟨'*', rfl, by decide⟩⟩, by decide⟩
  have := parse_tree_roundtrip_includes fs file plainLayout plainLayout_ok
    [.nodes [.number ['p', 'o', 'r', 't'] ['8', '0']], .incl ['r', '.', 'c'] plainLayout inner,
     .nodes [.boolean ['x'] "true".toList]] (by
      intro p hp
      simp only [List.mem_cons, List.not_mem_nil, or_false] at hp
      rcases hp with rfl | rfl | rfl
      · exact ⟨⟨⟨hk1, by decide⟩, trivial⟩, by decide⟩
      · exact ⟨by unfold noHashNl; decide, plainLayout_ok, ⟨⟨hr, ⟨hk3, by unfold noHashNl; decide⟩, trivial⟩, trivial⟩,
          by decide, if_pos rfl⟩
      · exact ⟨⟨⟨hk2, Or.inl rfl⟩, trivial⟩, by decide⟩)
  exact this

/-- A model with every kind of route, a host, and most keys. -/
def sampleCfg : Cfg :=
  { address := some ['1', '2', '7', '.', '0', '.', '0', '.', '1']
    port := some 8080
    threads := some 4
    timeout := some 30
    blacklistMode := some .forbidden
    logLevel := some .info
    logConsole := some false
    cacheSize := some 134217728
    items :=
      [ .route ⟨[['/', 's', '/', '*'], ['/', 't']], .directory ['/', 'v', 'a', 'r'], none⟩,
        .host ⟨['a', '.', 'b'],
          [ ⟨[['/', 'a', 'p', 'i', '/', '*']], .proxy [['h', '1'], ['h', '2']] (some .random), some ['w', 's']⟩,
            ⟨[['/', 'o', 'l', 'd']], .redirect ['/', 'n', 'e', 'w'], none⟩ ]⟩,
        .route ⟨[['/', 'w', 's']], .websocketOnly, some ['l', ':', '9']⟩,
        .route ⟨[['/', 'f']], .file ['i', '.', 'h', 't', 'm', 'l'], none⟩ ] }

theorem sampleCfg_wf (fs : FS) : sampleCfg.WF fs where
  address := by intro a h; cases h; unfold noHashNl; decide
  port := by intro p h; cases h; decide
  threads := by intro p h; cases h; decide
  websocket := nofun
  timeout := by intro p h; cases h; decide
  blacklist := nofun
  logFile := nofun
  cacheSize := by intro p h; cases h; decide
  cacheTime := nofun
  items := by
    -- `okPattern` and `noHashNl` in a form that `decide` can evaluate on the sample's strings
    have pats : ∀ ps : List Str, (∀ p ∈ ps, p.head?.map isWhitespace = some false ∧
        p.getLast?.map isWhitespace = some false ∧ ∀ c ∈ p, c ≠ ',' ∧ c ≠ '#' ∧ c ≠ '\n') → ∀ p ∈ ps, okPattern p :=
      fun ps h p hp => ⟨tight_of_ends (h p hp).1 (h p hp).2.1, (h p hp).2.2⟩
    have nh : ∀ s : Str, (∀ c ∈ s, c ≠ '#' ∧ c ≠ '\n') → noHashNl s := fun _ h => h
    simp only [sampleCfg, List.forall_mem_cons]
    refine ⟨⟨by decide, pats _ (by decide), by decide, nh _ (by decide), nofun, nofun⟩, ⟨nh _ (by decide), ?_⟩,
      ⟨by decide, pats _ (by decide), by decide, trivial, ?_, fun _ => rfl⟩,
      ⟨by decide, pats _ (by decide), by decide, nh _ (by decide), nofun, nofun⟩, nofun⟩
    · simp only [List.forall_mem_cons]
      refine ⟨⟨by decide, pats _ (by decide), by decide, ⟨by decide, ?_⟩, ?_, nofun⟩,
        ⟨by decide, pats _ (by decide), by decide, nh _ (by decide), nofun, nofun⟩, nofun⟩
      · show ∀ t ∈ [['h', '1'], ['h', '2']], ∀ c ∈ t, c ≠ ',' ∧ c ≠ '#' ∧ c ≠ '\n'
        decide
      · intro w hw; cases hw; exact nh _ (by decide)
    · intro w hw; cases hw; exact nh _ (by decide)

/-- The sample model written with the plain layout loads into its normal form … -/
example (fs : FS) (file : Str) :
    load fs (renderTree sampleCfg.toTree plainLayout) file = .ok sampleCfg.normalise :=
  load_config_roundtrip fs file sampleCfg plainLayout (sampleCfg_wf fs) plainLayout_ok

/-- … which has the written values, the defaults for what was omitted, and hosts and routes in file
order (four routes on the default host from three `route` sections, two in the host). -/
example : sampleCfg.normalise.port = 8080 ∧ sampleCfg.normalise.cacheTime = 0 ∧
    sampleCfg.normalise.logLevel = .info ∧ sampleCfg.normalise.blacklistMode = .forbidden ∧
    sampleCfg.normalise.connectionTimeout = some 30 ∧
    sampleCfg.normalise.defaultHost.routes.map (·.routeType) =
      [.directory, .directory, .exclusiveWebSocket, .file] ∧
    sampleCfg.normalise.hosts.map (fun h => h.routes.map (·.routeType)) = [[.proxy, .redirect]] := by
  decide

/-- The empty model is well-formed and denotes the default configuration. -/
example (fs : FS) : ({} : Cfg).WF fs := by
  constructor <;> intros <;> contradiction

/-- A model with a blacklist, over a file system that holds the generated list file. -/
example :
    let ips : List Ip4 := [⟨10, 0, 0, 1⟩, ⟨192, 168, 1, 255⟩]
    let fs : FS := fun q => if q = ['b', 'l'] then .text (blacklistText ips) else .missing
    ({ blacklist := some (['b', 'l'], ips.map Ip4.text), blacklistMode := some .block } : Cfg).WF fs := by
  intro ips fs
  refine ⟨by simp, by simp, by simp, by simp, by simp, ?_, by simp, by simp, by simp, by simp⟩
  intro p l h
  cases h
  refine ⟨by unfold noHashNl; decide, blacklist_file_loads fs _ ips ?_ (by simp [fs])⟩
  intro i hi
  simp only [ips, List.mem_cons, List.not_mem_nil, or_false] at hi
  rcases hi with rfl | rfl <;> (unfold Ip4.ok; decide)

/-- `port 70000` is rejected with the port error; `threads 0` with the zero-threads error. -/
example (fs : FS) :
    fromTree fs (.section "server".toList [.number ['p', 'o', 'r', 't'] ['7', '0', '0', '0', '0']]) = .err .port := by
  refine bad_port_rejected fs _ ⟨.number ['p', 'o', 'r', 't'] ['7', '0', '0', '0', '0'], ?_, by decide⟩
  rw [cfgrt_flatten_server, k, String.toList_ofList]
  rfl

example (fs : FS) :
    fromTree fs (.section "server".toList [.number ['t', 'h', 'r', 'e', 'a', 'd', 's'] ['0']]) = .err .threadsZero := by
  refine zero_threads_rejected fs _ (.number ['t', 'h', 'r', 'e', 'a', 'd', 's'] ['0']) ?_ ?_ ?_ (by decide)
  · intro n h; rw [cfgrt_flatten_server, k, String.toList_ofList] at h; cases h
  · intro n h; rw [cfgrt_flatten_server, k, String.toList_ofList] at h; cases h
  · rw [cfgrt_flatten_server, k, String.toList_ofList]; rfl

end Humphrey.Conf
