import HumphreyModel.Proofs.PoolFinal
import HumphreyModel.Proofs.PoolConc
import HumphreyModel.Proofs.PoolUnrepaired

/-!
# C08 — thread pool: tasks run exactly once, panics are isolated, shutdown terminates

The property theorems, each clause first as a consequence of the invariant alone (`exactly_once_of_inv`,
`at_most_N_of_inv`, `all_done_of_inv`: the form `Props/C08Restart.lean` applies to every run). Model: `Model/Pool.lean` (labelled transition system of `thread/pool.rs` and
`thread/recovery.rs` after the repair of `Drop`; `stepU` = the code before the repair).
Spec: `Spec/Pool.lean`. All theorems quantify over every reachable state, i.e. over every
interleaving of the caller, the N workers and the recovery thread, for every N, every number of
tasks and every panicking subset `c.panics`.

Scope: ONE run of the pool. `start` is enabled only in `created`, so the reachable states — and with them every
theorem below — cover the lifecycle scripts `start, execute*, stop?, drop`. Scripts that start the pool again
(`… stop, start …`, any number of times; `start, start`) are the subject of `Model/PoolRestart.lean` (a several-runs
system over the same `step`) and `Props/C08Restart.lean`, which lifts the invariant behind the theorems below to every
run of the pool value. Their event logs are not replayed through that system (worker ids are reused by every run);
`./check C08` judges them with the executable predicates `PoolSpec.Summary.ok` / `PoolSpec.LogCounts.ok`
(see `Driver/C08.lean`).
-/
namespace Humphrey.Pool
open PoolSpec

/-! ### The clauses that hold of any state satisfying the invariant -/

theorem exactly_once_of_inv {c : Cfg} {s : State} (hc : InvCount s) : ExactlyOnce (viewOf c s) := by
  have hsub : ∀ k, s.submitted.count k ≤ 1 := by
    rw [hc.sub]; exact List.nodup_iff_count.mp List.nodup_range
  have hsplit : ∀ k, s.submitted.count k = s.dequeued.count k + (queuedTasks s.queue).count k := by
    intro k; rw [← hc.fifo, List.count_append]
  -- what a worker runs it holds
  have hrun_le : ∀ k, sumBy (runsC k) s.workers ≤ sumBy (holdsC k) s.workers := fun k =>
    sumBy_le_sumBy (fun p => by cases p <;> first | exact Nat.le_refl _ | exact Nat.zero_le _) _
  refine ⟨hsub, ?_, ?_, ?_⟩
  · intro k
    have := hc.deq k; have := hsplit k
    simp only [viewOf, heldTasks, count_flatMap]
    show _ + sumBy (holdsC k) s.workers + _ + _ = _
    omega
  · intro k
    have := hc.deq k; have := hc.sta k; have := hsplit k; have := hsub k; have := hrun_le k
    simp only [viewOf]; omega
  · intro k
    have := hc.sta k
    simp only [viewOf, runningTasks, count_flatMap]
    show _ = sumBy (runsC k) s.workers + _ + _
    omega

theorem at_most_N_of_inv {c : Cfg} {s : State} (hs : InvStruct c s) : AtMostN (viewOf c s) := by
  simp only [AtMostN, viewOf, length_runningTasks, runningCount]
  exact Nat.le_trans (List.length_filter_le _ _) (workers_length_le hs)

/-- Each submitted task is in exactly one of queue / one worker / finished / panicked, nothing that was not
submitted is anywhere, and no task body is ever entered twice (`startedLog` has no duplicates). -/
theorem exactly_once {c : Cfg} {s : State} (h : Reachable c s) : ExactlyOnce (viewOf c s) :=
  exactly_once_of_inv (Inv.of_reachable h).count

/-- Never more than N tasks run at the same time. -/
theorem at_most_N_running {c : Cfg} {s : State} (h : Reachable c s) : AtMostN (viewOf c s) :=
  at_most_N_of_inv (InvStruct.of_reachable h)

/-- Tasks are taken from the queue in the order in which they were submitted. -/
theorem fifo_dequeue {c : Cfg} {s : State} (h : Reachable c s) : Fifo (viewOf c s) :=
  (Inv.of_reachable h).count.fifo

/-- The receiver's mutex is never held by a worker that is running a task (it is held only inside `recv`
and until the guard is dropped, before the task is called). -/
theorem lock_not_held_while_running {c : Cfg} {s : State} (h : Reachable c s) (w : Wid) (k : TaskId)
    (hw : s.workers[w]? = some (.running k)) : s.rxLock ≠ some w := by
  intro hl
  obtain ⟨p, hp, hh⟩ := (InvStruct.of_reachable h).lockOwner w hl
  cases hw.symm.trans hp; cases hh

/-! ### Panic isolation -/

/-- A `panic w` step touches nothing but worker `w`'s phase and the ghost entry of the task it was running:
the queue, the mutex, every other worker, the recovery channel and all other logs are unchanged. -/
theorem panic_isolated {c : Cfg} {s s' : State} {w : Wid} (h : step c s (.panic w) = some s') :
    ∃ k, s.workers[w]? = some (.running k) ∧ c.panics k = true ∧
      s' = { s with workers := s.workers.set w .unwinding, panicked := s.panicked ++ [k] } ∧
      (∀ v, v ≠ w → s'.workers[v]? = s.workers[v]?) ∧ s'.workers[w]? = some .unwinding := by
  cases Step.of_step h with
  | @panic _ k hw hp =>
    exact ⟨k, hw, hp, rfl, fun v hv => List.getElem?_set_ne (Ne.symm hv),
      List.getElem?_set_self (lt_of_getElem?_some hw)⟩

/-- … and after any number of panics the recovery machinery alone (marker sends and the recovery thread's
steps, all of them enabled one after the other) brings every worker id back to an incarnation that serves the
queue, without touching the queue, the mutex, the logs or any worker that was not broken: afterwards
`usable + exited = workers`, and `usable = N` while the pool is started ("the pool returns to N usable
workers"). -/
theorem panic_recovery_restores {c : Cfg} {s : State} (h : Reachable c s) :
    ∃ ls s', ls.all Label.isRecovery = true ∧ run c s ls = some s' ∧ Untouched s s' ∧
      (viewOf c s').usable + (viewOf c s').exited = (viewOf c s').workers ∧
      (s.life = .started → (viewOf c s').usable = c.n) := by
  obtain ⟨ls, s', h1, h2, h3, hi, h4⟩ := recovery_restores (Inv.of_reachable h)
  have hsum := usable_or_exited_of_not_broken h4
  refine ⟨ls, s', h1, h2, h3, hsum, ?_⟩
  intro hl
  have hl' : s'.life = .started := h3.life.1.trans hl
  have hne := (hi.queue.started hl').2
  have hex : exitedCount s'.workers = 0 :=
    List.length_eq_zero_iff.mpr <| List.filter_eq_nil_iff.mpr <| forall_mem_of_getElem? fun w p hw => by
      have := hne w p hw
      cases p <;> first | exact Bool.false_ne_true | cases this
  have hlen := (hi.struct.started_shape (.inl hl')).2.1
  simp only [viewOf] at hsum ⊢
  omega

/-! ### N tasks at once -/

/-- For every N (and whatever tasks panic) a state with N tasks running at the same time is reachable, with
the receiver's mutex free: the mutex is not held while a task runs. -/
theorem N_can_run (n : Nat) (panics : TaskId → Bool) :
    ∃ s, Reachable ⟨n, panics⟩ s ∧ (viewOf ⟨n, panics⟩ s).running.length = n ∧ s.rxLock = none := by
  obtain ⟨s, hs⟩ := exists_busy ⟨n, panics⟩ n (Nat.le_refl n)
  refine ⟨s, hs.reach, ?_, hs.lock⟩
  simp only [viewOf, length_runningTasks]
  rw [runningCount_eq_length, hs.len]
  exact fun w hw => hs.running w (Nat.lt_of_lt_of_eq hw hs.len)

/-! ### Termination -/

/-- Every step other than `submit` strictly decreases `measure` (`submit` adds 11 to it: `measure_step`). -/
theorem measure_decreases {c : Cfg} {s s' : State} {l : Label} (h : step c s l = some s') (hl : l.isSubmit = false) :
    measure c s' < measure c s :=
  (Step.of_step h).measure_lt hl

/-- Hence every execution with finitely many submits is finite: an execution from `s` with `k` submits has at
most `measure c s + 11 * k` other steps. -/
theorem executions_finite {c : Cfg} {s s' : State} {ls : List Label} (h : run c s ls = some s') :
    otherSteps ls ≤ measure c s + 11 * submits ls := by
  have := run_measure ls s s' h; omega

theorem all_done_of_inv {c : Cfg} {s : State} (hn : 0 < c.n) (hi : Inv c s) (hT : Terminal c s)
    (hd : s.life = .dropped) : AllDone (viewOf c s) := by
  have hex := terminal_workers_exited hi hT hd
  refine ⟨fun k hk => ?_, ?_⟩
  · rcases hi.struct.shape with sh | ns
    · -- worker 0 exists and has exited, so the queue is empty: every submitted task was dequeued, and no worker holds one
      have h0 : 0 < s.workers.length := sh.2.1 ▸ hn
      have hq := hi.queue.drained 0 _ (List.getElem?_eq_getElem h0) (by rw [hex 0 _ (List.getElem?_eq_getElem h0)]; rfl)
      have hf := hi.count.fifo
      rw [hq, queuedTasks, List.flatMap_nil, List.append_nil] at hf
      have hheld : sumBy (holdsC k) s.workers = 0 := sumBy_zero_of_all fun w p hw => by rw [hex w p hw]; rfl
      have hdq := hi.count.deq k
      have : 0 < s.dequeued.count k := by rw [hf]; exact List.count_pos_iff.mpr hk
      show k ∈ s.finished ∨ k ∈ s.panicked
      rcases Nat.eq_zero_or_pos (s.finished.count k) with z | pos
      · exact .inr (List.count_pos_iff.mp (by omega))
      · exact .inl (List.count_pos_iff.mp pos)
    · rw [show (viewOf c s).submitted = [] from ns.submitted_nil] at hk; cases hk
  · exact List.length_filter_eq_length_iff.mpr <| forall_mem_of_getElem? fun w p hw => by rw [hex w p hw]; rfl

/-- When nothing can move any more and the pool has been dropped (with or without `stop` before), every
submitted task has finished or panicked and every worker incarnation has left its loop. -/
theorem terminal_all_done {c : Cfg} {s : State} (hn : 0 < c.n) (h : Reachable c s) (hT : Terminal c s)
    (hd : s.life = .dropped) : AllDone (viewOf c s) :=
  all_done_of_inv hn (Inv.of_reachable h) hT hd

/-! ### Drop never blocks (repaired code) and blocks forever (code before the repair) -/

def Label.isRecoveryProgress : Label → Bool
  | .recJoin | .recRespawn => true
  | _ => false

def Label.isDropStep : Label → Bool
  | .dropDetachRecovery | .dropDetach | .dropSender => true
  | _ => false

/-- Whenever the caller is inside `drop`, its next step is enabled right away, or becomes enabled after at most
two steps of the recovery thread which are themselves enabled (it holds the `threads` mutex only while joining
a worker that is already dead and respawning it). The caller never waits for a thread that cannot finish. -/
theorem drop_never_blocks {c : Cfg} {s : State} (h : Reachable c s)
    (hc : s.caller = .dropRec ∨ s.caller = .dropThreads ∨ s.caller = .dropTx) :
    ∃ ls s₁ l, ls.length ≤ 2 ∧ ls.all Label.isRecoveryProgress = true ∧ run c s ls = some s₁ ∧
      l.isDropStep = true ∧ (step c s₁ l).isSome = true := by
  have hi := Inv.of_reachable h
  rcases hc with hc | hc | hc
  · exact ⟨[], s, .dropDetachRecovery, by simp, rfl, rfl, rfl, Step.isSome (.dropDetachRecovery hc)⟩
  · -- the caller got here from a pool that was started, so there is a recovery thread
    have hab : s.recov ≠ .absent := hi.struct.shape.elim (·.2.2) fun ns => by
      cases hl : s.life with
      | created => exact absurd hl (hi.caller.threads hc)
      | dropped => cases hc.symm.trans (hi.caller.dropped.mp hl)
      | started => exact absurd hl ns.not_started
      | stopped => exact absurd hl ns.not_stopped
    cases hrec : s.recov with
    | absent => exact absurd hrec hab
    | ended => exact absurd hrec hi.struct.recAlive
    | waiting => exact ⟨[], s, .dropDetach, by simp, rfl, rfl, rfl, Step.isSome (.dropDetach hc hrec)⟩
    | joining v =>
      have h1 := recJoin_enabled hi.struct hrec
      have h2 := recRespawn_enabled (v := v) (invStruct_step hi.struct h1) rfl
      exact ⟨[.recJoin, .recRespawn], _, .dropDetach, by simp, rfl,
        h1.run_cons (h2.run_cons rfl), rfl, Step.isSome (.dropDetach hc rfl)⟩
    | respawning v =>
      have h1 := recRespawn_enabled hi.struct hrec
      exact ⟨[.recRespawn], _, .dropDetach, by simp, rfl, h1.run_cons rfl, rfl,
        Step.isSome (.dropDetach hc rfl)⟩
  · exact ⟨[], s, .dropSender, by simp, rfl, rfl, rfl, Step.isSome (.dropSender hc)⟩

/-- In particular the repaired `drop` never joins the recovery thread at all. -/
theorem drop_never_joins_recovery {c : Cfg} {s : State} : step c s .dropJoinRecovery = none := rfl

/-- The code before the repair: `start; drop` reaches a state in which the caller is inside
`thread.join()` of the recovery thread and stays there in every continuation — blocked forever, although the
other threads can still move. -/
theorem drop_without_stop_deadlocks_unrepaired (c : Cfg) :
    ∃ s, ReachableU c s ∧ s.caller = .dropRec ∧ stepU c s .dropJoinRecovery = none ∧
      ∀ ls s', runU c s ls = some s' → s'.caller = .dropRec ∧ stepU c s' .dropJoinRecovery = none := by
  let s : State := { init with life := .started, workers := List.replicate c.n .idle, recov := .waiting, caller := .dropRec }
  refine ⟨s, ⟨[.start, .dropBegin], ?_⟩, rfl, ?_, ?_⟩
  · simp [runU, runWith, stepU, step, init, s]
  · simp [stepU, s]
  · intro ls s' hr
    have := runWith_invariant (fun _ _ _ => blocked_in_join_step (c := c)) ls s s' ⟨rfl, rfl, nofun⟩ hr
    refine ⟨this.1, ?_⟩
    simp [stepU, this.2.1, this.2.2]

/-! ### The executable `enabled` / `terminalB` used by the driver -/

/-- In every reachable state `enabled` lists exactly the labels on which `step` is defined … -/
theorem enabled_iff_step {c : Cfg} {s : State} (h : Reachable c s) (l : Label) :
    l ∈ enabled c s ↔ (step c s l).isSome = true :=
  mem_enabled_iff (InvStruct.of_reachable h) l

/-- … and the driver's end-of-trace test `terminalB` is `Terminal`. -/
theorem terminalB_iff_terminal {c : Cfg} {s : State} (h : Reachable c s) : terminalB c s = true ↔ Terminal c s :=
  terminalB_iff (InvStruct.of_reachable h)

/-! ### Non-vacuity: concrete executions -/

def demoCfg : Cfg := { n := 1, panics := fun k => k == 0 }

/-- N = 1, task 0 panics: the worker dies, is joined and respawned under the same id, and the new incarnation
runs task 1; after `stop` and `drop` nothing can move, both tasks are accounted for, the worker has exited. -/
def demoTrace : List Label :=
  [.start, .submit 0, .submit 1, .reqLock 0, .lock 0, .recv 0, .unlock 0, .run 0, .panic 0, .markerSend 0,
   .recRecv 0, .recJoin, .recRespawn, .reqLock 0, .lock 0, .recv 0, .unlock 0, .run 0, .finish 0,
   .stop, .dropBegin, .dropDetachRecovery, .dropDetach, .dropSender,
   .reqLock 0, .lock 0, .recv 0, .unlock 0, .exit 0]

example : (run demoCfg init demoTrace).map (fun s => (s.panicked, s.finished, s.started))
    = some ([0], [1], [0, 1]) := by decide +kernel

example : (run demoCfg init demoTrace).map (fun s => (s.workers, s.life, s.caller))
    = some ([.exited], .dropped, .done) := by decide +kernel

example : (run demoCfg init demoTrace).map (terminalB demoCfg) = some true := by decide +kernel

/-- the same script without `stop`: the worker leaves on the disconnected channel -/
example : (run demoCfg init [.start, .submit 0, .dropBegin, .dropDetachRecovery, .dropDetach, .dropSender,
    .reqLock 0, .lock 0, .recv 0, .unlock 0, .run 0, .panic 0, .markerSend 0, .recRecv 0, .recJoin, .recRespawn,
    .reqLock 0, .lock 0, .recv 0, .unlock 0, .exit 0]).map (fun s => (s.panicked, s.workers, terminalB demoCfg s))
    = some ([0], [.exited], true) := by decide +kernel

/-- two workers run two tasks at the same time with the mutex free -/
example : (run { n := 2, panics := fun _ => false } init
    [.start, .submit 0, .submit 1, .reqLock 0, .reqLock 1, .lock 1, .recv 1, .unlock 1, .run 1,
     .lock 0, .recv 0, .unlock 0, .run 0]).map (fun s => (s.workers, s.rxLock))
    = some ([.running 1, .running 0], none) := by decide +kernel

/-- the unrepaired `drop` is stuck right after `start; dropBegin`: the join is not enabled -/
example : (runU demoCfg init [.start, .dropBegin]).map (fun s => (stepU demoCfg s .dropJoinRecovery).isSome)
    = some false := by decide +kernel

end Humphrey.Pool
