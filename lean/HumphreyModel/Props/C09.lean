import HumphreyModel.Model.Proxy
import HumphreyModel.Props.C02
import HumphreyModel.Props.C03
import HumphreyModel.Props.C07

/-!
# C09 — the proxy always answers: the upstream's response if valid, else 502, within the timeout

Model: `Model/Proxy.lean`. What the upstream does before the proxy's deadline is a value of
`Upstream` (refused; or some delivered segments followed by the upstream closing, or by silence
until the deadline — a stall and a too-slow trickle look the same to the proxy). Wall-clock time
itself is not modelled: that the real exchange is cut off at the deadline is observed by the
correspondence run (every case is timed against timeout + slack).
-/
namespace Humphrey.Http
open Humphrey Humphrey.IO

/-- **The proxy always answers, and with one of two things**: the fixed 502 response, or exactly the
response the response parser read from what the upstream delivered. (`proxyRequest` sends every
other parser outcome to the 502, the panic outcome included; that the parser never returns that one
is `response_parser_never_panics`.) -/
theorem proxy_answers (up : Upstream) :
    proxyRequest up = badGateway ∨
    ∃ d e r rest, up = .accepted d e ∧
      parseResponse readerSource (⟨[], d⟩ : Reader) = .ok (r, rest) ∧ proxyRequest up = r := by
  cases up with
  | refused => exact .inl rfl
  | accepted d e =>
    simp only [proxyRequest]
    cases h : parseResponse readerSource (⟨[], d⟩ : Reader) with
    | ok p =>
      obtain ⟨r, rest⟩ := p
      simp only []
      split
      · exact .inl rfl
      · exact .inr ⟨d, e, r, rest, rfl, h, rfl⟩
    | err _ => exact .inl rfl
    | panic => exact .inl rfl

theorem refused_502 : proxyRequest .refused = badGateway := rfl

/-- A complete valid response (self-delimiting, or close-delimited and then closed) is returned as
it is — status, headers and body exactly as the parser read them. -/
theorem valid_response_returned (d : List Bytes) (e : UpEnd) (r : Response) (rest : Reader)
    (h : parseResponse readerSource (⟨[], d⟩ : Reader) = .ok (r, rest))
    (hok : e = .closed ∨ closeDelimited r = false) :
    proxyRequest (.accepted d e) = r := by
  simp only [proxyRequest, h]
  rcases hok with rfl | hcd
  · simp
  · simp [hcd]

/-- Anything that is not a complete valid response — garbage, malformed headers, a body or chunk cut
short by a disconnect — is answered 502, however it was segmented. -/
theorem invalid_response_502 (d : List Bytes) (e : UpEnd) (err : RespErr)
    (h : parseResponse readerSource (⟨[], d⟩ : Reader) = .err err) :
    proxyRequest (.accepted d e) = badGateway := by
  simp [proxyRequest, h]

/-- An upstream that accepts and then stays silent is answered 502: with nothing delivered the
parser has no status line. -/
theorem accept_then_silence_502 (e : UpEnd) : proxyRequest (.accepted [] e) = badGateway :=
  invalid_response_502 [] e .response rfl

/-- A response whose end only the close of the connection marks, from an upstream that then stalls
instead of closing, is answered 502 (the deadline passes while the proxy waits for the end). -/
theorem close_delimited_stall_502 (d : List Bytes) (r : Response) (rest : Reader)
    (h : parseResponse readerSource (⟨[], d⟩ : Reader) = .ok (r, rest))
    (hcd : closeDelimited r = true) :
    proxyRequest (.accepted d .silent) = badGateway := by
  simp [proxyRequest, h, hcd]

/-- The answer does not depend on how the upstream's bytes were segmented. -/
theorem proxy_segmentation_independent (d₁ d₂ : List Bytes) (e : UpEnd) (h : d₁.flatten = d₂.flatten) :
    proxyRequest (.accepted d₁ e) = proxyRequest (.accepted d₂ e) := by
  rcases (response_parse_segmentation_independent d₁ d₂ h).elim with
    ⟨r, t₁, t₂, e₁, e₂, _⟩ | ⟨err, e₁, e₂⟩ | ⟨e₁, e₂⟩ <;>
  simp only [proxyRequest, e₁, e₂]

/-! ## What the upstream receives -/

/-- The relayed request differs from the client's only by one appended `X-Forwarded-For` field
carrying the client's address: every other field keeps its values and their order. -/
theorem relay_adds_only_xff (req : Request) (n : HName) :
    let fwd : Request := { req with headers := req.headers ++ [⟨hXff, req.address.origin⟩] }
    (forwardedBytes req = serializeRequest fwd) ∧
    fwd.method = req.method ∧ fwd.uri = req.uri ∧ fwd.query = req.query ∧
    fwd.version = req.version ∧ fwd.content = req.content ∧
    fwd.headers.getAll n =
      if n = hXff then req.headers.getAll n ++ [req.address.origin] else req.headers.getAll n := by
  refine ⟨rfl, rfl, rfl, rfl, rfl, rfl, ?_⟩
  simp only [get_all_preserves_order]
  by_cases hn : n = hXff
  · subst hn; simp [Headers.getAll]
  · have : hXff ≠ n := fun h => hn h.symm
    simp [Headers.getAll, hn, this]

/-- Prefix stripping removes exactly as many characters as the pattern has before its first `*`. -/
theorem stripPrefix_drop (pattern uri : List Char) (k : Nat)
    (hk : k = (pattern.takeWhile (· ≠ '*')).length) (hlen : k ≤ uri.length) :
    stripPrefix pattern uri = some (uri.drop k) := by
  induction pattern generalizing uri k with
  | nil => simp at hk; subst hk; simp [stripPrefix]
  | cons c ps ih =>
    by_cases hc : c = '*'
    · subst hc; simp at hk; subst hk; simp [stripPrefix]
    · simp [List.takeWhile, hc] at hk
      cases uri with
      | nil => subst hk; simp at hlen
      | cons u us =>
        subst hk
        simp only [stripPrefix, hc, if_false]
        rw [ih us _ rfl (by simpa using hlen)]
        simp

/-! ## Load balancing -/

theorem select_roundRobin {τ : Type} (lb : LoadBalancer τ) (hm : lb.mode = .roundRobin)
    (hi : lb.index < lb.targets.length) :
    lb.select = some (lb.targets[lb.index], { lb with index := (lb.index + 1) % lb.targets.length }) := by
  have e : (if lb.index + 1 = lb.targets.length then 0 else lb.index + 1) =
      (lb.index + 1) % lb.targets.length := by
    split
    · rename_i h; rw [h, Nat.mod_self]
    · rw [Nat.mod_eq_of_lt (by omega)]
  simp only [LoadBalancer.select, hm, List.getElem?_eq_getElem hi, e]

/-- **Round-robin is strict rotation**: from index `i < n` the `k`-th selection is
`targets[(i + k) mod n]`. -/
theorem round_robin_strict {τ : Type} (lb : LoadBalancer τ) (hm : lb.mode = .roundRobin)
    (hi : lb.index < lb.targets.length) (k : Nat) :
    ∃ ts lb', lb.selectN k = some (ts, lb') ∧ ts.length = k ∧
      (∀ j (hj : j < k), ts[j]? = lb.targets[(lb.index + j) % lb.targets.length]?) ∧
      lb'.targets = lb.targets ∧ lb'.mode = .roundRobin ∧
      lb'.index = (lb.index + k) % lb.targets.length := by
  induction k generalizing lb with
  | zero => exact ⟨[], lb, rfl, rfl, fun j hj => by omega, rfl, hm, (Nat.mod_eq_of_lt hi).symm⟩
  | succ k ih =>
    obtain ⟨ts, lb', hs, hl, hall, ht, hm', hi'⟩ :=
      ih { lb with index := (lb.index + 1) % lb.targets.length } hm (Nat.mod_lt _ (by omega))
    dsimp only at hall ht hi'
    refine ⟨lb.targets[lb.index] :: ts, lb', ?_, by rw [List.length_cons, hl], ?_, ht, hm', ?_⟩
    · simp only [LoadBalancer.selectN, select_roundRobin lb hm hi, hs]
    · intro j hj
      cases j with
      | zero => rw [List.getElem?_cons_zero, Nat.add_zero, Nat.mod_eq_of_lt hi, List.getElem?_eq_getElem hi]
      | succ j =>
        rw [List.getElem?_cons_succ, hall j (by omega), Nat.mod_add_mod]
        congr 2; omega
    · rw [hi', Nat.mod_add_mod]
      congr 1; omega

/-- **Random selection stays inside the configured set.** -/
theorem random_in_set {τ : Type} (lb : LoadBalancer τ) (t : τ) (lb' : LoadBalancer τ)
    (h : lb.select = some (t, lb')) : t ∈ lb.targets ∧ lb'.targets = lb.targets := by
  unfold LoadBalancer.select at h
  cases hm : lb.mode with
  | roundRobin =>
    simp only [hm] at h
    cases hx : lb.targets[lb.index]? with
    | none => simp [hx] at h
    | some x =>
      simp only [hx, Option.some.injEq, Prod.mk.injEq] at h
      obtain ⟨rfl, rfl⟩ := h
      exact ⟨List.mem_of_getElem? hx, rfl⟩
  | random =>
    simp only [hm] at h
    by_cases he : lb.targets.isEmpty
    · simp [he] at h
    · simp only [he, Bool.false_eq_true, if_false] at h
      cases hx : lb.targets[lb.lcg.next.1 % lb.targets.length]? with
      | none => simp [hx] at h
      | some x =>
        simp only [hx, Option.some.injEq, Prod.mk.injEq] at h
        obtain ⟨rfl, rfl⟩ := h
        exact ⟨List.mem_of_getElem? hx, rfl⟩

/-- Selection never panics on a non-empty target list with a valid index. -/
theorem select_defined {τ : Type} (lb : LoadBalancer τ) (hn : lb.targets ≠ [])
    (hi : lb.index < lb.targets.length) : (lb.select).isSome := by
  unfold LoadBalancer.select
  cases lb.mode with
  | roundRobin => simp [List.getElem?_eq_getElem hi]
  | random =>
    have hpos : 0 < lb.targets.length := List.length_pos_iff.mpr hn
    simp only [List.isEmpty_iff, hn, if_false]
    rw [List.getElem?_eq_getElem (Nat.mod_lt _ hpos)]
    simp

-- Non-vacuity.
example : ((⟨["a", "b", "c"], .roundRobin, 2, ⟨7, 3, 1, 1⟩⟩ : LoadBalancer String).selectN 4).map (·.1)
    = some ["c", "a", "b", "c"] := by decide
example : stripPrefix "/api/*".toList "/api/x".toList = some "x".toList := by decide

end Humphrey.Http
