import HumphreyModel.Proofs.FsComplete
import HumphreyModel.Proofs.FsEncoded
import HumphreyModel.Props.C05

/-!
# C06 — static handlers never leave their directory and serve what is inside it intact

Property theorems only. Model: `Model/Fs.lean` (`tryFindPath`, `serveDir`, `serveAsFilePath` — the
REPAIRED handler —, `directoryHandler`, over the world `Node` and the POSIX path walk `walk`).
Spec: `Spec/Fs.lean` (`Descends`, `subtree`, `Inside`, `HasExt`, `ServedIntact`, `indexOf`).

Every theorem is for ALL worlds (any tree, any names — including names such as `..%2f` or `%2e%2e` —
any depth), ALL directory texts and ALL request texts: dot-segments, percent-encodings (single,
double, mixed case, overlong `%c0%ae`), repeated slashes, NUL, backslashes and absolute components
are ordinary values of the universally quantified request.

`dirPath` is the canonical path of the configured directory (`canonicalDir`: the directory text,
trailing slashes trimmed as each handler trims them, walked from the world root).
-/
namespace Humphrey.Fs
open Humphrey Humphrey.Fs.Spec

/-- The world's "going down" (`lookup`, used by the model) is the specification's `Descends`. -/
theorem lookup_is_descends (n : Node) (cs : List Name) (m : Node) :
    lookup n cs = some m ↔ Descends n cs m :=
  lookup_iff_descends n cs m

/-- **Key lemma.** A text without `..` as a substring has no `..` component. -/
theorem no_dotdot_substring_no_dotdot_component (s : Bytes) (h : hasDotDot s = false) :
    ∀ c ∈ components s, c ≠ [46, 46] :=
  no_dotdot_component h

/-- **Key lemma.** A walk over components none of which is `..` only descends. -/
theorem walk_without_dotdot_descends (world : Node) (comps cur p : List Name)
    (hno : ∀ c ∈ comps, c ≠ [46, 46]) (h : walk world cur comps = some p) : ∃ rel, p = cur ++ rel :=
  walk_descends hno h

/-! ## Confinement -/

/-- Confinement of `try_find_path` for any list of index file names without `..` components.
Whatever file it locates — for any request text, decoded once — is a regular file inside the
directory: its canonical path extends the directory's and it is reached from the directory by going
downward only. -/
theorem try_find_path_confined_any_index (world : Node) (dir req : Bytes) (index : List Bytes)
    (hidx : ∀ f ∈ index, ∀ c ∈ components f, c ≠ [46, 46]) (p : List Name)
    (h : tryFindPath world dir req index = some (.file p)) :
    ∃ dirPath c, canonicalDir world (trimEndSlash dir) = some dirPath ∧ Inside world dirPath p c := by
  obtain ⟨dirPath, c, hd, -, hin⟩ := tryFindPath_confined hidx h
  exact ⟨dirPath, c, hd, hin⟩

/-- **`try_find_path` is confined**: the same for `INDEX_FILES`, the list every handler passes. -/
theorem try_find_path_confined (world : Node) (dir req : Bytes) (p : List Name)
    (h : tryFindPath world dir req indexFiles = some (.file p)) :
    ∃ dirPath c, canonicalDir world (trimEndSlash dir) = some dirPath ∧ Inside world dirPath p c :=
  try_find_path_confined_any_index world dir req indexFiles indexFiles_plain p h

/-- **`serve_dir` is confined**: a 200 body is the content of a regular file inside the directory. -/
theorem serve_dir_confined (world : Node) (dir : Bytes) (uri route : List Char) (ct : Option Bytes)
    (body : Bytes) (p : List Name) (h : serveDir world dir uri route = .ok ct body p) :
    ∃ dirPath, canonicalDir world (trimEndSlash dir) = some dirPath ∧ Inside world dirPath p body :=
  answers_confined (h ▸ serveDir_answers rfl world dir)

/-- **The server's `directory_handler` is confined.** -/
theorem directory_handler_confined (world : Node) (dir : Bytes) (uri pattern : List Char)
    (ct : Option Bytes) (body : Bytes) (p : List Name)
    (h : directoryHandler world dir uri pattern = .ok ct body p) :
    ∃ dirPath, canonicalDir world (trimEndSlash dir) = some dirPath ∧ Inside world dirPath p body := by
  cases hs : stripMatched pattern uri with
  | none => simp [directoryHandler, hs] at h
  | some rest => exact answers_confined (h ▸ directoryHandler_answers hs world dir)

/-- **`serve_as_file_path` (repaired) is confined.** Before the repair this was false: see
`serveAsFilePathUnchecked_escapes` / `witness_outside` in `Proofs/FsHandlers.lean`
(`GET /../c` against directory `s` returned the bytes of `/c`). -/
theorem serve_as_file_path_confined (world : Node) (dir : Bytes) (uri : List Char) (ct : Option Bytes)
    (body : Bytes) (p : List Name) (h : serveAsFilePath world dir uri = .ok ct body p) :
    ∃ dirPath, canonicalDir world (stripOneEndSlash dir) = some dirPath ∧ Inside world dirPath p body := by
  rcases serveAsFilePath_cases world dir uri with hr | ⟨r, _, c, canon, hdd, hm, hr⟩
  · rw [hr] at h; cases h
  · rw [hr] at h; cases h
    obtain ⟨dirPath, hd, -, hin⟩ := metadata_inside (no_dotdot_component hdd) hm
    exact ⟨dirPath, hd, hin⟩

/-- What confinement buys: a file whose canonical path does not extend the directory's (the canary
next to it, anything above it, a sibling whose name merely starts with the directory's name) is
never the file served. -/
theorem outside_never_served (world : Node) (dirPath q : List Name) (c : Bytes)
    (hout : ¬ dirPath <+: q) : ¬ Inside world dirPath q c := by
  rintro ⟨_, rel, -, rfl, -⟩
  exact hout ⟨rel, rfl⟩

/-! ## Completeness: what is inside is served intact -/

/-- **`serve_dir` serves every file inside intact** — for EVERY spelling of its path: any text that
percent-decodes (once) to the path, possibly after extra leading slashes. `init ++ [name]` are the
file's components below the directory; the path contains no `..` and no `:` and is valid UTF-8. -/
theorem serve_dir_complete (world : Node) (dir : Bytes) (pre tail : List Char) (d : Bytes)
    (dirPath : List Name) (dnode : Node) (init : List Name) (name : Name) (c : Bytes)
    (hdir : canonicalDir world (trimEndSlash dir) = some dirPath)
    (hdn : Descends world dirPath dnode) (hfile : subtree dnode (init ++ [name]) c)
    (hplain : ∀ n ∈ init ++ [name], PlainName n)
    (hdec : Percent.decode (utf8 tail) = some d) (hpath : trimStartSlash d = joinPath (init ++ [name]))
    (hutf : Bytes.utf8Valid d = true) (hdd : hasDotDot d = false) (hcol : 58 ∉ d) :
    ServedIntact (serveDir world dir (pre ++ tail) (pre ++ ['*'])) c name :=
  answers_complete (serveDir_routed world dir pre tail) hdir hdn hfile hplain hdec hpath hutf hdd hcol

/-- **`serve_dir_complete`, canonical spelling**: `route ++ percent_encode(path)`. Names may contain
any byte (`%`, space, non-ASCII, `?`, `#`, backslash…): `Percent.decode_encode` removes every
`%`-ambiguity. -/
theorem serve_dir_complete_encoded (world : Node) (dir : Bytes) (pre : List Char)
    (dirPath : List Name) (dnode : Node) (init : List Name) (name : Name) (c : Bytes)
    (hdir : canonicalDir world (trimEndSlash dir) = some dirPath)
    (hdn : Descends world dirPath dnode) (hfile : subtree dnode (init ++ [name]) c)
    (hplain : ∀ n ∈ init ++ [name], PlainName n)
    (hutf : Bytes.utf8Valid (joinPath (init ++ [name])) = true)
    (hdd : hasDotDot (joinPath (init ++ [name])) = false) (hcol : 58 ∉ joinPath (init ++ [name])) :
    ServedIntact (serveDir world dir
      (pre ++ asciiChars (Percent.encode (joinPath (init ++ [name])))) (pre ++ ['*'])) c name :=
  serve_dir_complete world dir pre _ _ dirPath dnode init name c hdir hdn hfile hplain
    (decode_encoded_spelling _) (trimStartSlash_joinPath hplain) hutf hdd hcol

/-- **The server's `directory_handler` serves every file inside intact**, for every spelling of its
path; the route pattern is `pre*rest` with a literal prefix `pre`. -/
theorem directory_handler_complete (world : Node) (dir : Bytes) (pre rest tail : List Char) (d : Bytes)
    (dirPath : List Name) (dnode : Node) (init : List Name) (name : Name) (c : Bytes)
    (hpre : '*' ∉ pre)
    (hdir : canonicalDir world (trimEndSlash dir) = some dirPath)
    (hdn : Descends world dirPath dnode) (hfile : subtree dnode (init ++ [name]) c)
    (hplain : ∀ n ∈ init ++ [name], PlainName n)
    (hdec : Percent.decode (utf8 tail) = some d) (hpath : trimStartSlash d = joinPath (init ++ [name]))
    (hutf : Bytes.utf8Valid d = true) (hdd : hasDotDot d = false) (hcol : 58 ∉ d) :
    ServedIntact (directoryHandler world dir (pre ++ tail) (pre ++ '*' :: rest)) c name :=
  answers_complete (directoryHandler_routed hpre world dir rest tail) hdir hdn hfile hplain hdec hpath
    hutf hdd hcol

/-- **`directory_handler_complete`, canonical spelling.** -/
theorem directory_handler_complete_encoded (world : Node) (dir : Bytes) (pre rest : List Char)
    (dirPath : List Name) (dnode : Node) (init : List Name) (name : Name) (c : Bytes)
    (hpre : '*' ∉ pre)
    (hdir : canonicalDir world (trimEndSlash dir) = some dirPath)
    (hdn : Descends world dirPath dnode) (hfile : subtree dnode (init ++ [name]) c)
    (hplain : ∀ n ∈ init ++ [name], PlainName n)
    (hutf : Bytes.utf8Valid (joinPath (init ++ [name])) = true)
    (hdd : hasDotDot (joinPath (init ++ [name])) = false) (hcol : 58 ∉ joinPath (init ++ [name])) :
    ServedIntact (directoryHandler world dir
      (pre ++ asciiChars (Percent.encode (joinPath (init ++ [name])))) (pre ++ '*' :: rest)) c name :=
  directory_handler_complete world dir pre rest _ _ dirPath dnode init name c hpre hdir hdn hfile hplain
    (decode_encoded_spelling _) (trimStartSlash_joinPath hplain) hutf hdd hcol

/-- **`serve_as_file_path` (repaired) serves every file inside intact** when requested literally:
the URI is `/` followed by the path (this handler does not decode; the path is a Rust `String`, so
it is UTF-8 by construction; `:` is not special here). -/
theorem serve_as_file_path_complete (world : Node) (dir : Bytes) (chars : List Char)
    (dirPath : List Name) (dnode : Node) (init : List Name) (name : Name) (c : Bytes)
    (hdir : canonicalDir world (stripOneEndSlash dir) = some dirPath)
    (hdn : Descends world dirPath dnode) (hfile : subtree dnode (init ++ [name]) c)
    (hplain : ∀ n ∈ init ++ [name], PlainName n)
    (huri : utf8 chars = joinPath (init ++ [name]))
    (hdd : hasDotDot (joinPath (init ++ [name])) = false) :
    ServedIntact (serveAsFilePath world dir ('/' :: chars)) c name := by
  have hdn' := (lookup_iff_descends _ _ _).mpr hdn
  have hobj := (lookup_iff_descends _ _ _).mpr hfile
  have h47 : ∀ n ∈ init ++ [name], 47 ∉ n := fun n hn => (hplain n hn).2.1
  have hnd := joinPath_no_dotdot (by simp) h47 hdd
  have hmeta := metadata_plain hdir hdn' (fun n hn => ⟨hplain n hn, hnd n hn⟩)
    (components_joinPath (by simp) h47)
  have hnodd : hasDotDot (utf8 ('/' :: chars)) = false := by
    rw [utf8_slash_cons, huri, hasDotDot_cons_ne (by decide)]; exact hdd
  unfold serveAsFilePath serveAsFilePathUnchecked rawExtension
  simp only [hnodd, huri, hmeta, hobj, rawFileName_join hplain (hnd name (by simp))]
  cases hx : nameExtension name <;> exact servedIntact_ok (hnd name (by simp)) (by simp [hx])

/-- The model's `Path::extension` is the specification's extension (so "the Content-Type of its
extension" above is not vacuous): `HasExt name e` forces `nameExtension name = some e`. -/
theorem extension_is_spec (name e : Bytes) (h : HasExt name e) (hdd : name ≠ [46, 46]) :
    nameExtension name = some e :=
  nameExtension_of_hasExt h hdd

/-! ## Redirect and index rule -/

/-- **`dir_redirect_and_index` (`serve_dir`).** For a directory inside the served directory at plain
components `cs`, requested by any spelling `tail` that decodes to `d`:
* without trailing slash (`cs ≠ []`): 301 with `Location: <request URI>/`;
* in its slash form (every component followed by `/`; the empty text for the served directory itself):
  `index.html` if the directory holds a regular file of that name, else `index.htm` likewise — both
  as `text/html`, content intact —, else 404. -/
theorem dir_redirect_and_index (world : Node) (dir : Bytes) (pre tail : List Char) (d : Bytes)
    (dirPath : List Name) (dnode : Node) (cs : List Name) (es : List (Name × Node))
    (hdir : canonicalDir world (trimEndSlash dir) = some dirPath)
    (hdn : Descends world dirPath dnode) (hobj : Descends dnode cs (.dir es))
    (hplain : ∀ n ∈ cs, PlainName n)
    (hdec : Percent.decode (utf8 tail) = some d)
    (hutf : Bytes.utf8Valid d = true) (hdd : hasDotDot d = false) (hcol : 58 ∉ d) :
    (cs ≠ [] → trimStartSlash d = joinPath cs →
      serveDir world dir (pre ++ tail) (pre ++ ['*']) = .moved (utf8 (pre ++ tail) ++ [47])) ∧
    (trimStartSlash d = slashPath cs →
      serveDir world dir (pre ++ tail) (pre ++ ['*']) =
        match indexOf es with
        | some (n, c) => .ok (some [116, 101, 120, 116, 47, 104, 116, 109, 108]) c (dirPath ++ cs ++ [n])
        | none => .notFound) := by
  have h := answers_redirect_and_index (serveDir_routed world dir pre tail) hdir hdn hobj hplain hdec
    hutf hdd hcol
  refine ⟨h.1, fun hpath => ?_⟩
  rw [h.2 hpath]
  rcases indexOf es with _ | ⟨n, c⟩ <;> rfl

/-- **`dir_redirect_and_index` for the server's `directory_handler`** (pattern `pre*rest`). -/
theorem directory_handler_redirect_and_index (world : Node) (dir : Bytes) (pre rest tail : List Char)
    (d : Bytes) (dirPath : List Name) (dnode : Node) (cs : List Name) (es : List (Name × Node))
    (hpre : '*' ∉ pre)
    (hdir : canonicalDir world (trimEndSlash dir) = some dirPath)
    (hdn : Descends world dirPath dnode) (hobj : Descends dnode cs (.dir es))
    (hplain : ∀ n ∈ cs, PlainName n)
    (hdec : Percent.decode (utf8 tail) = some d)
    (hutf : Bytes.utf8Valid d = true) (hdd : hasDotDot d = false) (hcol : 58 ∉ d) :
    (cs ≠ [] → trimStartSlash d = joinPath cs →
      directoryHandler world dir (pre ++ tail) (pre ++ '*' :: rest) = .moved (utf8 (pre ++ tail) ++ [47])) ∧
    (trimStartSlash d = slashPath cs →
      directoryHandler world dir (pre ++ tail) (pre ++ '*' :: rest) =
        match indexOf es with
        | some (n, c) => .ok (some [116, 101, 120, 116, 47, 104, 116, 109, 108]) c (dirPath ++ cs ++ [n])
        | none => .notFound) := by
  have h := answers_redirect_and_index (directoryHandler_routed hpre world dir rest tail) hdir hdn hobj
    hplain hdec hutf hdd hcol
  refine ⟨h.1, fun hpath => ?_⟩
  rw [h.2 hpath]
  rcases indexOf es with _ | ⟨n, c⟩ <;> rfl

/-! ## No panic -/

/-- **`directory_handler` never panics** on a URI with at least as many characters as the pattern's
literal prefix: neither `String::remove(0)` (prefix stripping by character count) nor the
`File::open(path).unwrap()` of `inner_file_handler` (the located path is a regular file). -/
theorem directory_handler_never_panics (world : Node) (dir : Bytes) (uri pattern : List Char)
    (h : (pattern.takeWhile (· ≠ '*')).length ≤ uri.length) :
    directoryHandler world dir uri pattern ≠ .panic := by
  obtain ⟨r, hr⟩ := stripMatched_some h
  exact answers_ne_panic (directoryHandler_answers hr world dir)

/-- Hence no panic on any URI the router hands to the directory route: a URI that matches the pattern
(C05's glob relation, i.e. `wildcard_match`) has at least as many characters as its literal prefix. -/
theorem directory_handler_never_panics_on_matched (world : Node) (dir : Bytes) (uri pattern : List Char)
    (h : Glob.wildcardMatch pattern uri = true) : directoryHandler world dir uri pattern ≠ .panic :=
  directory_handler_never_panics world dir uri pattern
    (Glob.glob_prefix_le ((Glob.wildcard_match_iff_glob pattern uri).mp h))

/-- `serve_dir` and `serve_as_file_path` have no panic outcome at all. -/
theorem library_handlers_never_panic (world : Node) (dir : Bytes) (uri route : List Char) :
    serveDir world dir uri route ≠ .panic ∧ serveAsFilePath world dir uri ≠ .panic := by
  constructor
  · exact answers_ne_panic (serveDir_answers rfl world dir)
  · rcases serveAsFilePath_cases world dir uri with hr | ⟨_, _, _, _, -, -, hr⟩ <;> rw [hr] <;>
      exact Resp.noConfusion

/-! ## Non-vacuity: one concrete world, the shapes the property names -/

/-- `/c` (canary), `/s/a.txt`, `/s/sub/index.htm`, `/s/p%q`; served directory `s`, route `/s/*`. -/
def exampleWorld : Node :=
  .dir [([99], .file [67, 65, 78, 65, 82, 89]),
        ([115], .dir [([97, 46, 116, 120, 116], .file [1]),
                      ([115, 117, 98], .dir [(indexHtm, .file [2])]),
                      ([112, 37, 113], .file [3])])]

-- GET /s/a.txt on route /s/*: 200 text/plain
example : serveDir exampleWorld [115] ['/', 's', '/', 'a', '.', 't', 'x', 't'] ['/', 's', '/', '*'] =
    .ok (some [116, 101, 120, 116, 47, 112, 108, 97, 105, 110]) [1] [[115], [97, 46, 116, 120, 116]] := by rfl
-- GET /s/sub: 301 Location: /s/sub/
example : serveDir exampleWorld [115, 47] ['/', 's', '/', 's', 'u', 'b'] ['/', 's', '/', '*'] =
    .moved [47, 115, 47, 115, 117, 98, 47] := by rfl
-- GET /s/sub/: index.htm (no index.html there)
example : serveDir exampleWorld [115] ['/', 's', '/', 's', 'u', 'b', '/'] ['/', 's', '/', '*'] =
    .ok (some [116, 101, 120, 116, 47, 104, 116, 109, 108]) [2] [[115], [115, 117, 98], indexHtm] := by rfl
-- a name containing '%', requested encoded
example : serveDir exampleWorld [115] ['/', 's', '/', 'p', '%', '2', '5', 'q'] ['/', 's', '/', '*'] =
    .ok none [3] [[115], [112, 37, 113]] := by rfl
-- encoded dot-dot
example : serveDir exampleWorld [115] ['/', 's', '/', '%', '2', 'e', '%', '2', 'e', '/', 'c'] ['/', 's', '/', '*'] =
    .notFound := by rfl
-- double encoding
example : serveDir exampleWorld [115] ['/', 's', '/', '%', '2', '5', '2', 'e', '%', '2', '5', '2', 'e', '/', 'c'] ['/', 's', '/', '*'] =
    .notFound := by rfl
-- overlong UTF-8 dot
example : serveDir exampleWorld [115] ['/', 's', '/', '%', 'c', '0', '%', 'a', 'e', '%', 'c', '0', '%', 'a', 'e', '/', 'c'] ['/', 's', '/', '*'] =
    .notFound := by rfl
-- mixed
example : serveDir exampleWorld [115] ['/', 's', '/', '.', '.', '%', '2', 'f', 'c'] ['/', 's', '/', '*'] =
    .notFound := by rfl
-- NUL
example : serveDir exampleWorld [115] ['/', 's', '/', 'a', '.', 't', 'x', 't', '%', '0', '0'] ['/', 's', '/', '*'] =
    .notFound := by rfl
-- the request that escaped before the repair
example : serveAsFilePath exampleWorld [115] ['/', '.', '.', '/', 'c'] =
    .notFound := by rfl
-- literal path
example : serveAsFilePath exampleWorld [115] ['/', 'a', '.', 't', 'x', 't'] =
    .ok (some [116, 101, 120, 116, 47, 112, 108, 97, 105, 110]) [1] [[115], [97, 46, 116, 120, 116]] := by rfl
-- String::remove(0) on an empty string: the URI is shorter than the literal prefix
example : directoryHandler exampleWorld [115] ['/'] ['/', 's', '/', '*'] =
    .panic := by rfl
-- the served directory itself has no index file
example : directoryHandler exampleWorld [115] ['/', 's', '/'] ['/', 's', '/', '*'] =
    .notFound := by rfl
example : HasExt [97, 46, 116, 120, 116] [116, 120, 116] := ⟨[97], by simp, rfl, by simp⟩
example : Inside exampleWorld [[115]] [[115], [97, 46, 116, 120, 116]] [1] :=
  ⟨.dir [([97, 46, 116, 120, 116], .file [1]), ([115, 117, 98], .dir [(indexHtm, .file [2])]),
      ([112, 37, 113], .file [3])], [[97, 46, 116, 120, 116]],
    (lookup_iff_descends _ _ _).mp (by rfl), rfl, (lookup_iff_descends _ _ _).mp (by rfl)⟩
example : ¬ Inside exampleWorld [[115]] [[99]] [67, 65, 78, 65, 82, 89] :=
  outside_never_served _ _ _ _ (by decide)

end Humphrey.Fs
