import HumphreyModel.Proofs.JsonSer
import HumphreyModel.Proofs.JsonSound

/-!
# C13 — the JSON parser accepts exactly RFC 8259, the serialiser emits it, and they round-trip

Property theorems only. Model: `Model/Json.lean` (parser.rs, serialize.rs after the three
repairs). Spec: `Spec/Json.lean` (`JsonText`, `LawfulCodec`, `FiniteNumbers`, `depthOf`).
All theorems hold for an arbitrary number codec `C` (`f64::from_str` / `Display`); the laws they
use are explicit hypotheses (`LawfulCodec C Fin`, and `C.parse l = some n` inside `JsonText`).
-/
namespace Humphrey.Json
open Humphrey.JsonSpec

variable {N : Type} {C : NumCodec N}

/-- **Completeness.** Every RFC 8259 text nested no deeper than `MAX_DEPTH` is accepted, and the
value returned is the one the text denotes. (`JsonText` has no rule for an escape denoting an
unpaired surrogate, so texts with such an escape are outside the hypothesis.) -/
theorem parse_complete {s : List Char} {v : Value N} {d : Nat}
    (h : JsonText C s v d) (hd : d ≤ maxDepth) : parse C s = some v := by
  obtain ⟨w1, t, w2, rfl, hw1, hw2, hj⟩ := h
  have hp := J_completeAt C hj (2 * (w1 ++ (t ++ w2)).length + 1) 0 w2
    (by simpa using delim_ws_append hw2 delim_nil) (by omega)
    (by simp only [List.length_append]; omega)
  unfold parse
  rw [parseValue_ws_prefix C _ 0 _ hw1, hp]
  simp [flush_ws hw2]

/-- **The serialiser emits RFC 8259** (compact form), denoting the value it was given. -/
theorem serialize_is_json {Fin : N → Prop} (hC : LawfulCodec C Fin) (v : Value N)
    (hv : FiniteNumbers Fin v) : JsonText C (serialize C v) v (depthOf v) :=
  ⟨[], serialize C v, [], by simp, ws_nil, ws_nil, serialize_J hC v hv⟩

/-- **The pretty printer emits RFC 8259** for every indent. -/
theorem serialize_pretty_is_json {Fin : N → Prop} (hC : LawfulCodec C Fin) (indent : Nat) (v : Value N)
    (hv : FiniteNumbers Fin v) : JsonText C (serializePretty C indent v) v (depthOf v) :=
  ⟨[], serializePretty C indent v, [], by simp, ws_nil, ws_nil, pretty_J hC indent v 0 hv⟩

/-- **Round trip**: parsing the compact serialisation of a value with finite numbers, nested no
deeper than the parser's limit, returns that value. -/
theorem roundtrip {Fin : N → Prop} (hC : LawfulCodec C Fin) (v : Value N)
    (hv : FiniteNumbers Fin v) (hd : depthOf v ≤ maxDepth) : parse C (serialize C v) = some v :=
  parse_complete (serialize_is_json hC v hv) hd

/-- **Round trip** through `serialize_pretty(indent)`, any indent. -/
theorem roundtrip_pretty {Fin : N → Prop} (hC : LawfulCodec C Fin) (indent : Nat) (v : Value N)
    (hv : FiniteNumbers Fin v) (hd : depthOf v ≤ maxDepth) :
    parse C (serializePretty C indent v) = some v :=
  parse_complete (serialize_pretty_is_json hC indent v hv) hd

/-- Strings alone: `parse_string` inverts `string_to_string` for every Unicode string. -/
theorem roundtrip_string (s rest : List Char) :
    parseString (escapeString s ++ '"' :: rest) = some (s, rest) :=
  parseString_escapeString s rest

/-- The model's number check is exactly the RFC 8259 §6 grammar. -/
theorem number_check_iff_rfc (l : List Char) : isNumberLexeme l = true ↔ NumberLexeme l :=
  isNumberLexeme_iff l

/-- **Soundness.** Whatever `Value::parse` accepts is an RFC 8259 text nested no deeper than
`MAX_DEPTH`, and the value returned is the one the text denotes. -/
theorem parse_sound {s : List Char} {v : Value N} (h : parse C s = some v) :
    ∃ d, d ≤ maxDepth ∧ JsonText C s v d := by
  revert h
  fun_cases parse C s
  case case2 v' rest hpv hemp =>
    intro h; cases h
    obtain ⟨w, t, d, hs, hw, hj, hb⟩ := (sound_at_fuel C _).1 0 s v rest (Nat.zero_le _) hpv
    obtain ⟨w2, hw2, hs2⟩ := flush_split rest
    rw [List.isEmpty_iff.1 hemp, List.append_nil] at hs2
    exact ⟨d, by omega, w, t, rest, hs, hw, hs2 ▸ hw2, hj⟩
  all_goals intro h; cases h

/-- **`Value::parse` accepts exactly RFC 8259** (texts without unpaired-surrogate escapes, nested no
deeper than `MAX_DEPTH` = 256) **and returns the value the text denotes.** -/
theorem parse_iff_json_text (s : List Char) (v : Value N) :
    parse C s = some v ↔ ∃ d, d ≤ maxDepth ∧ JsonText C s v d :=
  ⟨parse_sound, fun ⟨_, hd, h⟩ => parse_complete h hd⟩

/-- Acceptance alone: the accepted strings are exactly the texts of the grammar (for any codec: a
number lexeme the codec does not read denotes nothing in `JsonText` either). -/
theorem parse_accepts_iff (s : List Char) :
    (∃ v, parse C s = some v) ↔ ∃ v d, d ≤ maxDepth ∧ JsonText C s v d :=
  ⟨fun ⟨v, h⟩ => let ⟨d, hd, hj⟩ := parse_sound h; ⟨v, d, hd, hj⟩,
   fun ⟨v, _, hd, h⟩ => ⟨v, parse_complete h hd⟩⟩

/-- **Members in document order.** When an object is returned, the text is `ws { members } ws` and
the member list returned is the one the `members` text denotes under the rules
`J.membersOne` / `J.membersCons`, which read `member , members` as `(key, value) :: rest`:
first member of the text first, duplicates kept. -/
theorem members_in_document_order {s : List Char} {ms : List (List Char × Value N)}
    (h : parse C s = some (.object ms)) :
    ∃ w1 t w2, s = w1 ++ ('{' :: (t ++ ['}']) ++ w2) ∧ Ws w1 ∧ Ws w2 ∧
      ((ms = [] ∧ Ws t) ∨ ∃ d, J C .members t (.object ms) d) := by
  obtain ⟨d, _, w1, t, w2, hs, hw1, hw2, hj⟩ := parse_sound h
  cases hj with
  | objectEmpty hw => exact ⟨w1, _, w2, hs, hw1, hw2, Or.inl ⟨rfl, hw⟩⟩
  | object hm => exact ⟨w1, _, w2, hs, hw1, hw2, Or.inr ⟨_, hm⟩⟩

/-- The head of the returned member list is the first member of the text. -/
theorem first_member_first {w1 k w2 w3 t w4 t' key : List Char} {v : Value N}
    {ms : List (List Char × Value N)} {d d' : Nat}
    (hw1 : Ws w1) (hk : StrBody k key) (hw2 : Ws w2) (hw3 : Ws w3) (hv : J C .value t v d) (hw4 : Ws w4)
    (hrest : J C .members t' (.object ms) d') (hd : max d d' + 1 ≤ maxDepth) :
    parse C ('{' :: ((w1 ++ '"' :: (k ++ '"' :: (w2 ++ ':' :: (w3 ++ (t ++ (w4 ++ ',' :: t')))))) ++ ['}'])) =
      some (.object ((key, v) :: ms)) :=
  parse_complete ⟨[], _, [], by simp, ws_nil, ws_nil,
    .object (.membersCons hw1 hk hw2 hw3 hv hw4 hrest)⟩ hd

/-! ### Non-vacuity -/

/-- a trivially lawful codec: one number, printed `0` -/
def unitCodec : NumCodec Unit := ⟨fun _ => some (), fun _ => ['0']⟩

theorem lexeme_zero : NumberLexeme ['0'] := by
  have := NumberLexeme.mk .none .zero .none .none
  simpa using this

theorem unitCodec_lawful : LawfulCodec unitCodec (fun _ => True) :=
  ⟨fun _ _ => ⟨(), rfl⟩, fun _ _ => lexeme_zero, fun _ _ => rfl⟩

/-- `JsonText` is inhabited on a text with whitespace, a nested array, an object and an escape. -/
example : JsonText unitCodec " [0 ,{\"a\\n\":[]}]".toList
    (.array [.number (), .object [(['a', '\n'], .array [])]]) 3 := by
  -- `String.toList_ofList` spells the literal out as a list of characters; evaluating `toList` instead
  -- goes through the UTF-8 bytes of the string and is far dearer
  rw [String.toList_ofList]
  have h0 : J unitCodec .value ['0'] (.number ()) 0 := .number lexeme_zero rfl
  have hk : StrBody ['a', '\\', 'n'] ['a', '\n'] :=
    .raw ((unescaped_iff _).1 (by decide)) (.esc .n .nil)
  have hobj := J.object (C := unitCodec) (.membersOne (w1 := []) (w2 := []) (w3 := []) (w4 := []) ws_nil hk
    ws_nil ws_nil (.arrayEmpty (w := []) ws_nil) ws_nil)
  exact ⟨[' '], _, [], rfl, ws_space, ws_nil,
    .array (.elemsCons (w1 := []) (w2 := [' ']) ws_nil h0 ws_space
      (.elemsOne (w1 := []) (w2 := []) ws_nil hobj ws_nil))⟩

/-- the round-trip theorems apply to a concrete value (hypotheses are satisfiable) -/
example : parse unitCodec (serializePretty unitCodec 4
    (.object [(['k'], .array [.number (), .string ['\n', '"'], .null])])) =
    some (.object [(['k'], .array [.number (), .string ['\n', '"'], .null])]) :=
  roundtrip_pretty unitCodec_lawful 4 _ (by simp [FiniteNumbers, FiniteMembers, FiniteList])
    (by simp [depthOf, depthMembers, depthList, maxDepth])

/-- a leading zero is rejected (the unrepaired parser accepted `01`, D21) -/
example : parse unitCodec "01".toList = none := by
  rw [String.toList_ofList]; decide

end Humphrey.Json
